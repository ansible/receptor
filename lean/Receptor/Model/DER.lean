/-!
# DER model of `pkg/utils/other_name.go` (property C20)

`makeSAN` builds the subjectAltName extension value byte for byte as
`MakeReceptorSAN` does (through `encoding/asn1.Marshal`, for the subset used:
SEQUENCE, OBJECT IDENTIFIER (constant), UTF8String, context tags, definite
lengths).  `receptorNames` is `ReceptorNames` for one extension value: Go's
`asn1.Unmarshal` into `[]RawValue`, then `UnmarshalWithParams(…,"tag:0")` into
`OtherNameDecode`, then `Unmarshal` into a `string`.

The header strip of the marshalled `OtherNameEncode` is a parameter
(`Strip`): the pinned tree used a fixed two-byte strip; a parsed strip removes
the real SEQUENCE header.  Which one the source uses is a regenerated fact.

Bytes are `Nat`s `< 256` (a well-formedness predicate, provably satisfied by
everything `makeSAN` emits); the driver converts from/to hex.
-/
namespace Receptor.DER

abbrev Bytes := List Nat

/-- minimal big-endian base-256 digits; `0 ↦ []` -/
def natBEAux : Nat → Nat → Bytes
  | 0, _ => []
  | f + 1, n => if n = 0 then [] else natBEAux f (n / 256) ++ [n % 256]

/-- (structural recursion on a fuel argument equal to `n`, so that `decide` can evaluate it) -/
def natBE (n : Nat) : Bytes := natBEAux n n

/-- value of big-endian digits -/
def beVal (bs : Bytes) : Nat := bs.foldl (fun a b => a * 256 + b) 0

/-- DER definite length -/
def encLen (n : Nat) : Bytes :=
  if n < 128 then [n] else (128 + (natBE n).length) :: natBE n

def tlv (tag : Nat) (content : Bytes) : Bytes := tag :: (encLen content.length ++ content)

/-- content bytes of OID 1.3.6.1.4.1.2312.19.1 -/
def oidReceptorContent : Bytes := [0x2B, 6, 1, 4, 1, 0x92, 8, 0x13, 1]
def oidReceptor : Bytes := tlv 6 oidReceptorContent

/-- UTF-8 validity exactly as Go's `utf8.Valid` (RFC 3629 ranges, no surrogates, no overlongs). -/
def validUTF8 : Bytes → Bool
  | [] => true
  | b0 :: rest =>
    if b0 < 0x80 then validUTF8 rest
    else if 0xC2 ≤ b0 ∧ b0 ≤ 0xDF then
      match rest with
      | b1 :: r => (0x80 ≤ b1 && b1 ≤ 0xBF) && validUTF8 r
      | _ => false
    else if 0xE0 ≤ b0 ∧ b0 ≤ 0xEF then
      match rest with
      | b1 :: b2 :: r =>
        let lo := if b0 = 0xE0 then 0xA0 else 0x80
        let hi := if b0 = 0xED then 0x9F else 0xBF
        (lo ≤ b1 && b1 ≤ hi) && (0x80 ≤ b2 && b2 ≤ 0xBF) && validUTF8 r
      | _ => false
    else if 0xF0 ≤ b0 ∧ b0 ≤ 0xF4 then
      match rest with
      | b1 :: b2 :: b3 :: r =>
        let lo := if b0 = 0xF0 then 0x90 else 0x80
        let hi := if b0 = 0xF4 then 0x8F else 0xBF
        (lo ≤ b1 && b1 ≤ hi) && (0x80 ≤ b2 && b2 ≤ 0xBF) && (0x80 ≤ b3 && b3 ≤ 0xBF) && validUTF8 r
      | _ => false
    else false

/-- How `MakeReceptorSAN` removes the SEQUENCE header of the marshalled OtherName. -/
inductive Strip where
  | fixed (k : Nat)   -- `asnOtherName[k:]`
  | parsed            -- the real header: tag byte + length bytes
  deriving Repr, DecidableEq

/-- Interpretation of the regenerated fact "how MakeReceptorSAN strips the header". -/
def stripOfFact : String → Option Strip
  | "parsed" => some .parsed
  | "fixed:2" => some (.fixed 2)
  | _ => none

/-- `asn1.Marshal(OtherNameEncode{OID, UTFString{id}})` -/
def otherNameSeq (id : Bytes) : Bytes :=
  tlv 0x30 (oidReceptor ++ tlv 0xA0 (tlv 0x0C id))

def stripHeader (s : Strip) (seq : Bytes) (contentLen : Nat) : Bytes :=
  match s with
  | .fixed k => seq.drop k
  | .parsed => seq.drop (1 + (encLen contentLen).length)

/-- the GeneralName `[0]` entry emitted for a node ID -/
def otherNameEntry (s : Strip) (id : Bytes) : Bytes :=
  let content := oidReceptor ++ tlv 0xA0 (tlv 0x0C id)
  tlv 0xA0 (stripHeader s (tlv 0x30 content) content.length)

def dnsEntry (name : Bytes) : Bytes := tlv 0x82 name
/-- `net.IP.To4` as used by `MakeReceptorSAN`: an IPv4-mapped 16-byte address is
shortened to its last four bytes; anything else is kept as is. -/
def normIP (ip : Bytes) : Bytes :=
  if ip.length = 16 ∧ ip.take 10 = List.replicate 10 0 ∧ (ip.drop 10).take 2 = [255, 255]
  then ip.drop 12 else ip
def ipEntry (ip : Bytes) : Bytes := tlv 0x87 (normIP ip)

inductive Err where
  | invalidUTF8 | syntax | truncated | trailing | structural
  deriving Repr, DecidableEq

deriving instance DecidableEq for Except

/-- `MakeReceptorSAN`.  It never fails: `asn1.Marshal` does not validate a string
whose field is tagged `utf8` (validity is only checked by the decoder). -/
def makeSAN (s : Strip) (dns ips ids : List Bytes) : Bytes :=
  tlv 0x30 ((dns.map dnsEntry).flatten ++ (ips.map ipEntry).flatten
        ++ (ids.map (otherNameEntry s)).flatten)

/-! ## Decoder -/

/-- Go `parseTagAndLength`, length part.  `numBytes ≤ 4`, value `< 2^31`,
no leading zero byte, long form only for values ≥ 128; indefinite refused. -/
def decLen : Bytes → Option (Nat × Bytes)
  | [] => none
  | b :: rest =>
    if b < 128 then some (b, rest)
    else
      let nb := b - 128
      if nb = 0 then none            -- indefinite length
      else if nb > 4 then none       -- length too large
      else if rest.length < nb then none
      else
        let ds := rest.take nb
        if ds.head? = some 0 then none            -- superfluous leading zeros
        else
          let v := beVal ds
          if v < 128 then none                     -- non-minimal length
          else if v ≥ 2147483648 then none         -- does not fit an int32
          else some (v, rest.drop nb)

/-- One TLV with a low tag number (< 31, the only form the encoder emits;
high-tag-number form is reported as `none` = unmodelled/refused).
Returns (identifier byte, content, rest). -/
def decTLV : Bytes → Option (Nat × Bytes × Bytes)
  | [] => none
  | t :: rest =>
    if t % 32 = 31 then none
    else
      match decLen rest with
      | none => none
      | some (n, r) => if r.length < n then none else some (t, r.take n, r.drop n)

theorem decLen_rest_lt {bs n r} (h : decLen bs = some (n, r)) : r.length < bs.length := by
  cases bs with
  | nil => cases h
  | cons b rest =>
    by_cases h1 : b < 128
    · rw [decLen, if_pos h1] at h
      cases h; exact Nat.lt_succ_self _
    · rw [decLen, if_neg h1] at h
      -- every refusal is an `if … then none`: what is left says `r` is `rest` without the length bytes
      simp only [Option.ite_none_left_eq_some, Option.some.injEq, Prod.mk.injEq] at h
      rw [← h.2.2.2.2.2.2.2, List.length_drop, List.length_cons]
      omega

theorem decTLV_rest_lt {bs t c r} (h : decTLV bs = some (t, c, r)) : r.length < bs.length := by
  cases bs with
  | nil => cases h
  | cons t' rest =>
    rw [decTLV] at h
    cases hl : decLen rest with
    | none => simp [hl] at h
    | some nr =>
      have := decLen_rest_lt hl
      simp only [hl, Option.ite_none_left_eq_some, Option.some.injEq, Prod.mk.injEq] at h
      rw [← h.2.2.2.2, List.length_drop, List.length_cons]
      omega

def decAllAux : Nat → Bytes → Option (List (Nat × Bytes))
  | 0, _ => none
  | fuel + 1, bs =>
    if bs = [] then some [] else
    match decTLV bs with
    | none => none
    | some (t, c, r) =>
      match decAllAux fuel r with
      | none => none
      | some l => some ((t, c) :: l)

/-- all TLVs of a buffer (SEQUENCE OF RawValue); `none` on any syntax error.
Fuel `length + 1` always suffices because every TLV consumes at least two bytes. -/
def decAll (bs : Bytes) : Option (List (Nat × Bytes)) := decAllAux (bs.length + 1) bs

/-- Go `asn1.Unmarshal(bytes, &string)` on the content of the `[0]` wrapper:
one TLV; universal UTF8String (12) with valid UTF-8; PrintableString (19),
IA5String (22), NumericString (18), T61String (20), BMPString (30) are
accepted by Go too — reported here as `none` (unmodelled) by `strOther`. -/
def decString (bs : Bytes) : Except Err Bytes :=
  match decTLV bs with
  | none => .error .syntax
  | some (t, c, _rest) =>
    if t = 0x0C then (if validUTF8 c then .ok c else .error .invalidUTF8)
    else .error .structural

/-- Go `parseBase128Int` over the whole OID content: every sub-identifier is at most
5 bytes, does not start with 0x80, fits an int32, and the content ends on a
terminating byte (high bit clear).  `cur` = bytes consumed of the current group,
`acc` its value so far. -/
def validOIDAux : Bytes → Nat → Nat → Bool
  | [], cur, _ => cur = 0
  | b :: rest, cur, acc =>
    if cur = 5 then false
    else if cur = 0 ∧ b = 0x80 then false
    else
      let acc' := acc * 128 + b % 128
      if b < 128 then (acc' ≤ 2147483647) && validOIDAux rest 0 0
      else validOIDAux rest (cur + 1) acc'

def validOID (c : Bytes) : Bool := c ≠ [] && validOIDAux c 0 0

/-- the identifier bytes whose string decoding Go accepts but this model does not cover -/
def strOther (t : Nat) : Bool := t = 19 ∨ t = 22 ∨ t = 18 ∨ t = 20 ∨ t = 30

def highTag (bs : Bytes) : Bool := match bs with | t :: _ => t % 32 == 31 | [] => false

/-- Does decoding `ext` reach a construct outside the modelled subset (high-tag-number
identifiers, or a non-UTF8 string type that Go's `Unmarshal` into `string` also accepts)?
The correspondence check skips such inputs and counts them. -/
def unmodelled (ext : Bytes) : Bool :=
  highTag ext ||
  match decTLV ext with
  | none => false
  | some (_, c, _) =>
    let rec walk : Nat → Bytes → Bool
      | 0, _ => false
      | f + 1, bs =>
        if bs = [] then false else
        highTag bs ||
        match decTLV bs with
        | none => false
        | some (t, ec, r) =>
          (t == 0xA0 &&
            (highTag ec ||
             match decTLV ec with
             | none => false
             | some (_, oid, r1) =>
               highTag r1 ||
               match decTLV r1 with
               | none => false
               | some (_, v, _) =>
                 oid == oidReceptorContent &&
                   (highTag v || match decTLV v with
                                 | some (t3, _, _) => strOther t3
                                 | none => false)))
          || walk f r
    walk (c.length + 1) c

/-- `UnmarshalWithParams(value.FullBytes, &OtherNameDecode{}, "tag:0")` followed by the
OID comparison and the string decode: `ok none` = not a receptor name (skipped). -/
def decOtherName (t : Nat) (content : Bytes) : Except Err (Option Bytes) :=
  -- implicit [0] replaces the SEQUENCE tag: must be context-specific, constructed, tag 0
  if t ≠ 0xA0 then .error .structural else
  match decTLV content with
  | none => .error .syntax
  | some (t1, oid, r1) =>
    if t1 ≠ 6 then .error .structural else
    if !validOID oid then .error .syntax else
    match decTLV r1 with
    | none => .error .syntax
    | some (_t2, v, _r2) =>
      -- encoding/asn1 allows extra elements at the end of a SEQUENCE decoded into a struct
      if oid = oidReceptorContent then
        match decString v with
        | .ok s => .ok (some s)
        | .error e => .error e
      else .ok none

def collectNames : List (Nat × Bytes) → Except Err (List Bytes)
  | [] => .ok []
  | (t, c) :: rest =>
    if t % 32 = 0 then
      match decOtherName t c with
      | .error e => .error e
      | .ok none => collectNames rest
      | .ok (some s) =>
        match collectNames rest with
        | .error e => .error e
        | .ok l => .ok (s :: l)
    else collectNames rest

/-- `ReceptorNames` for one subjectAltName extension value -/
def receptorNames (ext : Bytes) : Except Err (List Bytes) :=
  match decTLV ext with
  | none => .error .syntax
  | some (t, c, _rest) =>
    if t ≠ 0x30 then .error .structural else
    match decAll c with
    | none => .error .syntax
    | some l => collectNames l

end Receptor.DER

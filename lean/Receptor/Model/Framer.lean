/-!
# Model of `pkg/framer/framer.go` (C02, C07)

`frame` = `SendData` (two-byte little-endian length prefix, `uint16` truncation included);
`getMessage` = `messageReady` + `GetMessage` on the buffer; `recv` = `RecvData` (append).
`lenBytes`/endianness are regenerated facts (see `Receptor.Facts.frame_*`).
-/
namespace Receptor.Framer

abbrev Bytes := List Nat

/-- `SendData`: `PutUint16(buf[0:2], uint16(len(data)))` then the data. -/
def frame (m : Bytes) : Bytes := (m.length % 256) :: (m.length / 256 % 256) :: m

/-- `messageReady` + `GetMessage`: `none` = "message not ready" (buffer unchanged). -/
def getMessage (buf : Bytes) : Option (Bytes × Bytes) :=
  match buf with
  | lo :: hi :: rest =>
    if lo + 256 * hi ≤ rest.length then some (rest.take (lo + 256 * hi), rest.drop (lo + 256 * hi)) else none
  | _ => none

/-- a message is ready exactly when the buffer starts with a length prefix followed by that many bytes -/
theorem getMessage_eq_some {buf m buf' : Bytes} :
    getMessage buf = some (m, buf') ↔ ∃ lo hi, buf = lo :: hi :: (m ++ buf') ∧ lo + 256 * hi = m.length := by
  constructor
  · fun_cases getMessage buf with
    | case1 lo hi rest hle =>
      rintro ⟨⟩
      exact ⟨lo, hi, by rw [List.take_append_drop], (List.length_take_of_le hle).symm⟩
    | _ => nofun
  · rintro ⟨lo, hi, rfl, e⟩
    simp only [getMessage, e, List.length_append, Nat.le_add_right, if_true, List.take_left, List.drop_left]

theorem getMessage_shrinks {buf m buf'} (h : getMessage buf = some (m, buf')) : buf'.length < buf.length := by
  obtain ⟨lo, hi, rfl, _⟩ := getMessage_eq_some.mp h
  simp only [List.length_cons, List.length_append]
  omega

/-- drain all ready messages (what a `Recv` loop returns over time with no further input) -/
def drain (buf : Bytes) : List Bytes × Bytes :=
  match h : getMessage buf with
  | none => ([], buf)
  | some (m, buf') =>
    have : buf'.length < buf.length := getMessage_shrinks h
    let r := drain buf'; (m :: r.1, r.2)
termination_by buf.length

/-- an operation on a framer -/
inductive Op where
  | recv (c : Bytes)   -- RecvData
  | get                -- GetMessage (an error when not ready; buffer unchanged)
  deriving Repr

/-- run a schedule of operations: (messages returned by the successful `get`s, final buffer) -/
def runOps : Bytes → List Op → List Bytes × Bytes
  | buf, [] => ([], buf)
  | buf, .recv c :: ops => runOps (buf ++ c) ops
  | buf, .get :: ops =>
    match getMessage buf with
    | none => runOps buf ops
    | some (m, buf') => let r := runOps buf' ops; (m :: r.1, r.2)

def chunksOf : List Op → Bytes
  | [] => []
  | .recv c :: ops => c ++ chunksOf ops
  | .get :: ops => chunksOf ops

end Receptor.Framer

import Receptor.Model.Ads
namespace Receptor.Ads

theorem get?_erase (s : State) (k k' : Node × Svc) :
    get? (erase s k) k' = if k' = k then none else get? s k' := by
  simp only [get?, erase, List.find?_filter]
  split
  · next h => subst h; simp
  · next h =>
    congr; funext e
    by_cases he : e.1 = k' <;> simp [he, h]

theorem get?_put (s : State) (k k' : Node × Svc) (v : Entry) :
    get? (put s k v) k' = if k' = k then some v else get? s k' := by
  have h : get? (put s k v) k' = (get? (erase s k) k').or (if k = k' then some v else none) := by
    simp only [get?, put, List.find?_append, Option.map_or, List.find?_singleton, beq_iff_eq]
    split <;> rfl
  rw [h, get?_erase]
  by_cases hk : k' = k
  · simp [hk]
  · simp [hk, Ne.symm hk]

/-- what one message does to the entry of its own key -/
def upd (tombstones : Bool) (cur : Option Entry) (m : Msg) : Option Entry :=
  match cur with
  | some c => if m.time > c.time then
      (if m.cancel then (if tombstones then some (.tomb m.time) else none) else some (.live m.time m.info))
    else some c
  | none => if m.cancel then (if tombstones then some (.tomb m.time) else none) else some (.live m.time m.info)

/-- keys are independent: a step changes only the entry of the message's own key, by `upd` -/
theorem step_get? (tb : Bool) (s : State) (m : Msg) (recv : Node) (k : Node × Svc) :
    get? (step tb s m recv).1 k = if (m.node, m.svc) == k then upd tb (get? s k) m else get? s k := by
  unfold step
  by_cases hk : k = (m.node, m.svc)
  · subst hk
    cases hc : get? s (m.node, m.svc) <;>
      simp only [hc, upd, beq_self_eq_true, if_true, apply_ite Prod.fst, apply_ite (get? · (m.node, m.svc)),
        get?_put, get?_erase]
  · have : ((m.node, m.svc) == k) = false := by simpa using Ne.symm hk
    cases hc : get? s (m.node, m.svc) <;>
      simp only [hc, this, hk, apply_ite Prod.fst, apply_ite (get? · k), get?_put, get?_erase, if_false, ite_self,
        Bool.false_eq_true]

/-- what a message leaves in the table when it is taken -/
def written (tb : Bool) (m : Msg) : Option Entry :=
  if m.cancel then (if tb then some (.tomb m.time) else none) else some (.live m.time m.info)

/-- a message is taken iff its time reaches the rank of the entry: the time after the entry's, 0 when there is none -/
def rank : Option Entry → Nat
  | none => 0
  | some e => e.time + 1

theorem upd_eq (tb : Bool) (cur : Option Entry) (m : Msg) :
    upd tb cur m = if rank cur ≤ m.time then written tb m else cur := by
  cases cur with
  | none => simp [upd, rank, written]
  | some c => simp only [upd, rank, written, Nat.succ_le_iff, gt_iff_lt]

theorem written_time {tb : Bool} {m : Msg} {e : Entry} (h : written tb m = some e) : e.time = m.time := by
  simp only [written] at h
  split at h
  · split at h
    · cases h; rfl
    · cases h
  · cases h; rfl

theorem rank_written (m : Msg) : rank (written true m) = m.time + 1 := by
  simp only [written]; split <;> rfl

theorem written_live {m : Msg} {t : Nat} {i : Info} (h : written true m = some (.live t i)) :
    m.time = t ∧ m.cancel = false ∧ m.info = i := by
  simp only [written] at h; split at h <;> simp_all

theorem upd_tomb (cur : Option Entry) (m : Msg) :
    rank cur ≤ rank (upd true cur m) ∧ m.time < rank (upd true cur m)
    ∧ (upd true cur m = cur ∨ upd true cur m = written true m) := by
  rw [upd_eq]
  split
  · rw [rank_written]; exact ⟨by omega, by omega, .inr rfl⟩
  · exact ⟨Nat.le_refl _, by omega, .inl rfl⟩

end Receptor.Ads

import Receptor.Model.DER
/-! Helper lemmas for C20: big-endian digits, lengths, and the round trips `decLen ∘ encLen`, `decTLV ∘ tlv`,
`decAll ∘ tlvs`. -/
namespace Receptor.DER

theorem natBEAux_fuel : ∀ f n, n ≤ f → natBEAux f n = natBE n := by
  intro f
  induction f using Nat.strongRecOn with
  | _ f ih =>
    intro n hn
    cases n with
    | zero => cases f <;> rfl
    | succ m =>
      cases f with
      | zero => omega
      | succ f =>
        have hd : (m + 1) / 256 ≤ m := by omega
        simp only [natBE, natBEAux, Nat.succ_ne_zero, if_false]
        rw [ih f (Nat.lt_succ_self f) _ (by omega), ih m (by omega) _ hd]

theorem natBE_zero : natBE 0 = [] := rfl
theorem natBE_pos {n : Nat} (h : n ≠ 0) : natBE n = natBE (n / 256) ++ [n % 256] := by
  cases n with
  | zero => exact absurd rfl h
  | succ m =>
    show natBEAux m ((m + 1) / 256) ++ _ = _
    rw [natBEAux_fuel m _ (by omega)]

theorem beVal_snoc (l : Bytes) (b : Nat) : beVal (l ++ [b]) = beVal l * 256 + b := by
  simp [beVal, List.foldl_append]

/-- Induction along `natBE`: from the digits of `n / 256` to those of `n`. -/
theorem natBE_induction {P : Nat → Prop} (h0 : P 0) (hs : ∀ n, n ≠ 0 → P (n / 256) → P n) (n : Nat) : P n := by
  induction n using Nat.strongRecOn with
  | _ n ih =>
    by_cases h : n = 0
    · exact h ▸ h0
    · exact hs n h (ih _ (by omega))

theorem beVal_natBE (n : Nat) : beVal (natBE n) = n := by
  induction n using natBE_induction with
  | h0 => rfl
  | hs n h ih => rw [natBE_pos h, beVal_snoc, ih]; omega

theorem natBE_length_le (n k : Nat) (hk : n < 256 ^ k) : (natBE n).length ≤ k := by
  induction n using natBE_induction generalizing k with
  | h0 => exact Nat.zero_le _
  | hs n h ih =>
    cases k with
    | zero => omega
    | succ k =>
      rw [natBE_pos h, List.length_append]
      exact Nat.succ_le_succ (ih k (Nat.div_lt_of_lt_mul (by rw [Nat.pow_succ] at hk; omega)))

theorem natBE_ne_nil {n : Nat} (h : n ≠ 0) : natBE n ≠ [] := by
  rw [natBE_pos h]; simp

theorem natBE_head (n : Nat) : (natBE n).head? ≠ some 0 := by
  induction n using natBE_induction with
  | h0 => simp [natBE_zero]
  | hs n h ih =>
    rw [natBE_pos h, List.head?_append]
    by_cases h2 : n / 256 = 0
    · rw [h2, natBE_zero]; simp; omega
    · cases hl : natBE (n / 256) with
      | nil => exact absurd hl (natBE_ne_nil h2)
      | cons a l => rw [hl] at ih; exact ih

theorem encLen_of_lt {n : Nat} (h : n < 128) : encLen n = [n] := if_pos h

/-- `decLen` inverts `encLen` for every length below 2^31 (Go's own limit). -/
theorem decLen_encLen (n : Nat) (r : Bytes) (hn : n < 2147483648) :
    decLen (encLen n ++ r) = some (n, r) := by
  by_cases h : n < 128
  · rw [encLen_of_lt h]; exact if_pos h
  · have h4 := natBE_length_le n 4 (by omega)
    have h0 : (natBE n).length ≠ 0 := by simpa using natBE_ne_nil (n := n) (by omega)
    rw [encLen, if_neg h, List.cons_append, decLen, if_neg (by omega)]
    -- the checks of `decLen` in their order: 1 ≤ count ≤ 4, enough bytes, no leading zero, value ≥ 128 and < 2^31
    simp only [Nat.add_sub_cancel_left, h0, Nat.not_lt.mpr h4, List.length_append, Nat.not_lt.mpr (Nat.le_add_right _ _),
      List.take_left', natBE_head, beVal_natBE, h, Nat.not_le.mpr hn, List.drop_left', if_false]

theorem encLen_length_le (n : Nat) (hn : n < 2147483648) : (encLen n).length ≤ 5 := by
  unfold encLen
  split
  · simp
  · have := natBE_length_le n 4 (by omega); simp; omega

/-- `decTLV` inverts `tlv` for a low tag number and content below 2^31 bytes. -/
theorem decTLV_tlv (t : Nat) (c r : Bytes) (ht : t % 32 ≠ 31) (hc : c.length < 2147483648) :
    decTLV (tlv t c ++ r) = some (t, c, r) := by
  simp only [tlv, List.cons_append, List.append_assoc, decTLV, ht, if_false, decLen_encLen _ _ hc,
    List.length_append, Nat.not_lt.mpr (Nat.le_add_right _ _), List.take_left', List.drop_left']

theorem decTLV_tlv_nil (t : Nat) (c : Bytes) (ht : t % 32 ≠ 31) (hc : c.length < 2147483648) :
    decTLV (tlv t c) = some (t, c, []) := by
  rw [← List.append_nil (tlv t c), decTLV_tlv t c [] ht hc]

theorem tlv_length (t : Nat) (c : Bytes) : (tlv t c).length = 1 + (encLen c.length).length + c.length := by
  simp [tlv]; omega

theorem tlv_length_gt (t : Nat) (c : Bytes) : c.length < (tlv t c).length := by
  rw [tlv_length]; omega

theorem tlv_length_of_lt (t : Nat) {c : Bytes} (h : c.length < 128) : (tlv t c).length = c.length + 2 := by
  rw [tlv_length, encLen_of_lt h]; exact Nat.add_comm _ _

/-- the concatenated TLVs of a list of (identifier, content) pairs: the content of a SEQUENCE OF -/
def tlvs (l : List (Nat × Bytes)) : Bytes := (l.map fun e => tlv e.1 e.2).flatten

theorem tlvs_cons (e : Nat × Bytes) (l : List (Nat × Bytes)) : tlvs (e :: l) = tlv e.1 e.2 ++ tlvs l := rfl

theorem tlvs_append (l l' : List (Nat × Bytes)) : tlvs (l ++ l') = tlvs l ++ tlvs l' := by
  simp [tlvs]

theorem tlvs_map {α} (f : α → Nat × Bytes) (l : List α) :
    tlvs (l.map f) = (l.map fun a => tlv (f a).1 (f a).2).flatten := by
  simp [tlvs, Function.comp_def]

theorem length_lt_tlvs {e : Nat × Bytes} {l : List (Nat × Bytes)} (h : e ∈ l) : e.2.length < (tlvs l).length := by
  induction l with
  | nil => cases h
  | cons x xs ih =>
    rw [tlvs_cons, List.length_append]
    cases h with
    | head => have := tlv_length_gt e.1 e.2; omega
    | tail _ h' => have := ih h'; omega

/-- `decAll` inverts `tlvs` (low tag numbers, fewer than 2^31 bytes in all); any fuel above the
number of entries will do, and `decAll` supplies more: an entry has at least one byte. -/
theorem decAllAux_tlvs (l : List (Nat × Bytes)) (ht : ∀ e ∈ l, e.1 % 32 ≠ 31) (hl : (tlvs l).length < 2147483648) :
    ∀ fuel, l.length < fuel → decAllAux fuel (tlvs l) = some l := by
  induction l with
  | nil => intro fuel hf; cases fuel with | zero => omega | succ f => rfl
  | cons e l ih =>
    intro fuel hf
    cases fuel with
    | zero => omega
    | succ f =>
      have hc : e.2.length < 2147483648 := Nat.lt_trans (length_lt_tlvs (List.mem_cons_self ..)) hl
      rw [tlvs_cons, List.length_append] at hl
      rw [tlvs_cons, decAllAux, if_neg (by simp [tlv]), decTLV_tlv _ _ _ (ht e (by simp)) hc]
      simp only [ih (fun x hx => ht x (by simp [hx])) (by omega) f (by simpa using hf)]

theorem decAll_tlvs (l : List (Nat × Bytes)) (ht : ∀ e ∈ l, e.1 % 32 ≠ 31) (hl : (tlvs l).length < 2147483648) :
    decAll (tlvs l) = some l := by
  refine decAllAux_tlvs l ht hl _ (Nat.lt_succ_of_le ?_)
  clear ht hl
  induction l with
  | nil => exact Nat.le_refl _
  | cons e l ih => rw [tlvs_cons, List.length_append, tlv_length, List.length_cons]; omega

theorem stripHeader_parsed (c : Bytes) : stripHeader .parsed (tlv 0x30 c) c.length = c := by
  rw [stripHeader, tlv, ← List.cons_append, Nat.add_comm]
  exact List.drop_left' rfl

theorem otherNameEntry_parsed (id : Bytes) :
    otherNameEntry .parsed id = tlv 0xA0 (oidReceptor ++ tlv 0xA0 (tlv 0x0C id)) := by
  simp only [otherNameEntry]; rw [stripHeader_parsed]

/-- the GeneralNames that `makeSAN .parsed` emits, as (identifier, content) pairs -/
def sanEntries (dns ips ids : List Bytes) : List (Nat × Bytes) :=
  dns.map (fun a => (0x82, a)) ++ (ips.map (fun a => (0x87, normIP a))
    ++ ids.map (fun a => (0xA0, oidReceptor ++ tlv 0xA0 (tlv 0x0C a))))

theorem makeSAN_parsed (dns ips ids : List Bytes) :
    makeSAN .parsed dns ips ids = tlv 0x30 (tlvs (sanEntries dns ips ids)) := by
  rw [makeSAN, sanEntries, tlvs_append, tlvs_append, tlvs_map, tlvs_map, tlvs_map, List.append_assoc,
    funext otherNameEntry_parsed]
  rfl

theorem validOID_receptor : validOID oidReceptorContent = true := by decide

theorem decString_tlv (id : Bytes) (hl : id.length < 2147483648) :
    decString (tlv 0x0C id) = if validUTF8 id then .ok id else .error .invalidUTF8 := by
  rw [decString, decTLV_tlv_nil 0x0C id (by decide) hl]; rfl

/-- the inner content of a node-ID entry decodes to that ID -/
theorem decOtherName_entry (id : Bytes) (hv : validUTF8 id = true)
    (hl : (oidReceptor ++ tlv 0xA0 (tlv 0x0C id)).length < 2147483648) :
    decOtherName 0xA0 (oidReceptor ++ tlv 0xA0 (tlv 0x0C id)) = .ok (some id) := by
  rw [List.length_append] at hl
  have hA : (tlv 0x0C id).length < 2147483648 := by have := tlv_length_gt 0xA0 (tlv 0x0C id); omega
  have hB : id.length < 2147483648 := Nat.lt_trans (tlv_length_gt 0x0C id) hA
  simp [decOtherName, oidReceptor, decTLV_tlv 6 oidReceptorContent _ (by decide) (by decide), validOID_receptor,
    decTLV_tlv_nil 0xA0 _ (by decide) hA, decString_tlv id hB, hv]

theorem collectNames_skip {α} (t : Nat) (g : α → Bytes) (l : List α) (rest : List (Nat × Bytes)) (ht : t % 32 ≠ 0) :
    collectNames (l.map (fun a => (t, g a)) ++ rest) = collectNames rest := by
  induction l with
  | nil => rfl
  | cons x xs ih => simp only [List.map_cons, List.cons_append, collectNames, ht, if_false, ih]

theorem collectNames_ids (ids : List Bytes) (hv : ∀ id ∈ ids, validUTF8 id = true)
    (hl : ∀ id ∈ ids, (oidReceptor ++ tlv 0xA0 (tlv 0x0C id)).length < 2147483648) :
    collectNames (ids.map fun a => (0xA0, oidReceptor ++ tlv 0xA0 (tlv 0x0C a))) = .ok ids := by
  induction ids with
  | nil => rfl
  | cons x xs ih =>
    simp only [List.map_cons, collectNames, decOtherName_entry x (hv x (by simp)) (hl x (by simp)),
      ih (fun a ha => hv a (by simp [ha])) (fun a ha => hl a (by simp [ha]))]
    rfl

end Receptor.DER

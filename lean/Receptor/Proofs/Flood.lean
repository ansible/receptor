import Receptor.Model.Flood
/-!
# What one `handleRoutingUpdate` step does

`step_outcome`: under the standard staleness rule a step either is `Quiet` or `Relays`.  The theorems of C06 are read
off the fields of these two (its two equations, `replay_is_noop` and `no_self_accept`, are computed); only
`selfStep_quiet` and `step_outcome` walk through the code of `step`.
-/
namespace Receptor.Flood

namespace KMap
theorem get?_set {α} (m : KMap α) (k k' : Node) (v : α) :
    get? (set m k v) k' = if k' = k then some v else get? m k' := by
  simp only [get?, set, erase, List.find?_append, List.find?_filter]
  by_cases h : k' = k
  · subst h; simp [List.find?_eq_none.2]
  · have : (fun e : Node × α => decide ((e.1 != k) = true ∧ (e.1 == k') = true)) = fun e => e.1 == k' := by
      funext e; by_cases he : e.1 = k' <;> simp [he, h]
    rw [this]; simp [h, Ne.symm h]
end KMap

@[simp] theorem markSeen_id (s : NodeState) (i : UpdateID) : (markSeen s i).id = s.id := rfl
@[simp] theorem markSeen_info (s : NodeState) (i : UpdateID) : (markSeen s i).info = s.info := rfl
@[simp] theorem markSeen_known (s : NodeState) (i : UpdateID) : (markSeen s i).known = s.known := rfl
@[simp] theorem markSeen_conns (s : NodeState) (i : UpdateID) : (markSeen s i).conns = s.conns := rfl
@[simp] theorem markSeen_seen (s : NodeState) (i : UpdateID) : (markSeen s i).seen = s.seen ++ [i] := rfl

theorem noticeStep_eq (s : NodeState) (u : Update) :
    noticeStep s u = s ∨ noticeStep s u = { s with info := s.info.set u.nodeID (u.epoch, u.seq) } := by
  unfold noticeStep; split
  · split
    · exact .inr rfl
    · exact .inl rfl
  · exact .inl rfl

theorem noticeStep_id (s : NodeState) (u : Update) : (noticeStep s u).id = s.id := by
  rcases noticeStep_eq s u with h | h <;> rw [h]
theorem noticeStep_seen (s : NodeState) (u : Update) : (noticeStep s u).seen = s.seen := by
  rcases noticeStep_eq s u with h | h <;> rw [h]
theorem noticeStep_known (s : NodeState) (u : Update) : (noticeStep s u).known = s.known := by
  rcases noticeStep_eq s u with h | h <;> rw [h]
theorem noticeStep_conns (s : NodeState) (u : Update) : (noticeStep s u).conns = s.conns := by
  rcases noticeStep_eq s u with h | h <;> rw [h]

theorem acceptStep_seen (s : NodeState) (u : Update) : (acceptStep s u).seen = s.seen := rfl
theorem acceptStep_id (s : NodeState) (u : Update) : (acceptStep s u).id = s.id := rfl
theorem acceptStep_conns (s : NodeState) (u : Update) : (acceptStep s u).conns = s.conns := rfl

/-- requests to the tick runners, i.e. actions that are not messages -/
def isReq : Action → Bool
  | .send _ _ => false
  | _ => true

theorem stale_std (ni : Nat × Nat) (u : Update) : stale stdStale ni u = lexLe (u.epoch, u.seq) ni := by
  simp [stale, stdStale, lexLe]

theorem mem_floodTo {s : NodeState} {ex : Option Node} {u : Update} {a : Action} (h : a ∈ floodTo s ex u) :
    ∃ c, a = .send c u ∧ s.conns.contains c = true ∧ some c ≠ ex := by
  simp only [floodTo, List.mem_map, List.mem_filter] at h
  obtain ⟨e, ⟨hm, hne⟩, rfl⟩ := h
  refine ⟨e.1, rfl, ?_, by simpa using hne⟩
  simp only [KMap.contains, List.any_eq_true]
  exact ⟨e, hm, by simp⟩

/-- A step after which the node's routing knowledge is what it was and which sends nothing of another origin: the update
names no origin or this node, its ID was seen already, or its stamp is stale. -/
structure Quiet (s : NodeState) (u : Update) (r : NodeState × List Action) : Prop where
  id : r.1.id = s.id
  conns : r.1.conns = s.conns
  info : r.1.info = s.info
  known : r.1.known = s.known
  seen : r.1.seen = s.seen ∨ r.1.seen = s.seen ++ [u.updateID]
  own : ∀ a ∈ r.2, u.nodeID = s.id ∧ ∀ c w, a = .send c w → w.nodeID = s.id

/-- A step that relays: the update is another node's, its ID is new and is recorded, and apart from requests to the tick
runners the actions are the relay.  Unless the update is a suspected-duplicate notice its stamp is newer than the recorded
one and replaces it. -/
structure Relays (s : NodeState) (u : Update) (recv : Node) (r : NodeState × List Action) : Prop where
  fresh : u.updateID ∉ s.seen
  id : r.1.id = s.id
  seen : r.1.seen = s.seen ++ [u.updateID]
  acts : ∃ pre, (∀ a ∈ pre, isReq a = true) ∧ r.2 = pre ++ relayActs stdStale (markSeen s u.updateID) u recv
  stamp : u.suspectedDuplicate = 0 → r.1.info = s.info.set u.nodeID (u.epoch, u.seq) ∧
    ∀ ni, s.info.get? u.nodeID = some ni → lexLe (u.epoch, u.seq) ni = false

theorem Quiet.idle {s : NodeState} {u : Update} : Quiet s u (s, []) :=
  ⟨rfl, rfl, rfl, rfl, .inl rfl, by simp⟩

theorem selfStep_quiet (s : NodeState) (u : Update) (fresh : UpdateID) (h : u.nodeID = s.id) :
    Quiet s u (selfStep s u fresh) := by
  unfold selfStep
  split
  · exact Quiet.idle
  split
  · exact ⟨rfl, rfl, rfl, rfl, .inl rfl, by simp⟩
  split
  · unfold originate
    split
    · exact Quiet.idle
    · refine ⟨rfl, rfl, rfl, rfl, .inl rfl, fun a ha => ?_⟩
      obtain ⟨c, rfl, _⟩ := mem_floodTo ha
      exact ⟨h, fun _ _ e => by cases e; rfl⟩
  · exact Quiet.idle

/-- whatever the staleness rule: an update naming this node as origin is never accepted or relayed -/
theorem step_quiet_of_self (R : StaleRule) (s : NodeState) (u : Update) (recv : Node) (fresh : UpdateID)
    (h : u.nodeID = s.id) : Quiet s u (step R s u recv fresh) := by
  unfold step
  split
  · exact Quiet.idle
  · exact selfStep_quiet s u fresh h

theorem Relays.mem {s : NodeState} {u : Update} {recv : Node} {r : NodeState × List Action} (h : Relays s u recv r)
    {a : Action} (ha : a ∈ r.2) :
    isReq a = true ∨ ∃ c, a = .send c { u with forwardingNode := s.id } ∧ c ≠ recv ∧ s.conns.contains c = true := by
  obtain ⟨pre, hpre, hacts⟩ := h.acts
  rw [hacts, List.mem_append] at ha
  rcases ha with ha | ha
  · exact .inl (hpre a ha)
  · obtain ⟨c, hc, hcon, hne⟩ := mem_floodTo ha
    exact .inr ⟨c, hc, by simpa [stdStale] using hne, hcon⟩

theorem step_outcome (s : NodeState) (u : Update) (recv : Node) (fresh : UpdateID) :
    Quiet s u (step stdStale s u recv fresh) ∨ Relays s u recv (step stdStale s u recv fresh) := by
  by_cases h1 : u.nodeID = s.id
  · exact .inl (step_quiet_of_self _ s u recv fresh h1)
  by_cases h0 : u.nodeID = []
  · rw [step, if_pos h0]; exact .inl Quiet.idle
  rw [step, if_neg h0, if_neg h1, remoteStep]
  by_cases hd : u.updateID ∈ s.seen
  · have : (stdStale.dedupFirst && s.seen.contains u.updateID) = true := by simpa [stdStale] using hd
    rw [if_pos this]; exact .inl Quiet.idle
  have : ¬ (stdStale.dedupFirst && s.seen.contains u.updateID) = true := by simpa [stdStale] using hd
  rw [if_neg this]
  by_cases hn : u.suspectedDuplicate = 0
  · simp only [hn, ne_eq, not_true_eq_false, if_false]
    cases hni : (markSeen s u.updateID).info.get? u.nodeID with
    | some ni =>
      simp only
      by_cases hst : stale stdStale ni u = true
      · rw [if_pos hst]; exact .inl ⟨rfl, rfl, rfl, rfl, .inr rfl, by simp⟩
      · rw [if_neg hst]
        refine .inr ⟨hd, rfl, rfl, ⟨_, ?_, rfl⟩, fun _ => ⟨rfl, ?_⟩⟩
        · -- what precedes the relay is `[reqTable]` or nothing
          generalize changedBy _ u = b; cases b <;> decide
        · intro ni' h'
          rw [markSeen_info, h'] at hni; cases hni
          rwa [stale_std, Bool.not_eq_true] at hst
    | none =>
      simp only
      refine .inr ⟨hd, rfl, rfl, ⟨_, ?_, rfl⟩, fun _ => ⟨rfl, ?_⟩⟩
      · generalize changedBy _ u = b; cases b <;> decide
      · intro ni' h'; rw [markSeen_info, h'] at hni; cases hni
  · simp only [ne_eq, hn, not_false_eq_true, if_true]
    exact .inr ⟨hd, noticeStep_id _ _, noticeStep_seen _ _, ⟨[], by simp, rfl⟩,
      fun h => absurd h hn⟩

end Receptor.Flood

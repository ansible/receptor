/-!
# Network-level flooding round theorem (C01 protocol layer, simplified setting)

Bag delivery on every directed link (covers FIFO and the code's goroutine-per-write reordering),
arbitrary interleaving of `originate` and `deliver`, static symmetric irreflexive topology, one
epoch, no suspected-duplicate notices.  See DESIGN.md §5 C01 and Appendix A.

The network model, the invariant `Good` with its preservation by `originate` and `deliver`, and
`flood_round_truth`: at quiescence the nodes up to date about `m` are closed under adjacency (field `K`) and hold
`m`'s true adjacency (field `K2`).
-/
namespace Receptor.FloodNet

abbrev Node := Nat
abbrev UId := Nat
abbrev Adj := List (Node × Nat)

structure Update where
  origin : Node
  id : UId
  seq : Nat
  conns : Adj
deriving DecidableEq

structure NodeSt where
  info  : Node → Option Nat
  known : Node → Option Adj
  seen  : List UId

structure Net where
  st   : Node → NodeSt
  q    : Node → Node → List Update
  seq  : Node → Nat
  cur  : Node → Option UId      -- ghost: id of the latest own update
  used : List UId

def hasKey (l : Adj) (x : Node) : Bool := l.any (fun e => e.1 == x)

/-- handleRoutingUpdate's prune: every other origin that the update does not list loses its edge to the update's origin -/
def prune (me : Node) (u : Update) (k : Node → Option Adj) : Node → Option Adj := fun x =>
  if x = me then k x
  else if hasKey u.conns x then k x
  else (k x).map (fun l => l.filter (fun e => e.1 != u.origin))

def accept (me : Node) (s : NodeSt) (u : Update) : NodeSt :=
  let k1 : Node → Option Adj := fun x => if x = u.origin then some u.conns else s.known x
  { info := fun x => if x = u.origin then some u.seq else s.info x
    known := if s.known u.origin = some u.conns then s.known else prune me u k1
    seen := s.seen }

/-- returns new state and whether the update is relayed -/
def handle (me : Node) (s : NodeSt) (u : Update) : NodeSt × Bool :=
  if u.origin = me then (s, false)
  else if u.id ∈ s.seen then (s, false)
  else
    let s1 : NodeSt := { s with seen := u.id :: s.seen }
    match s.info u.origin with
    | some k => if u.seq ≤ k then (s1, false) else (accept me s1 u, true)
    | none => (accept me s1 u, true)

variable (adj : Node → Adj)

def nbr (a b : Node) : Prop := hasKey (adj a) b = true

def originate (σ : Net) (m : Node) (i : UId) : Net :=
  let u : Update := ⟨m, i, σ.seq m + 1, adj m⟩
  { st := σ.st
    q := fun a b => if a = m ∧ hasKey (adj m) b then u :: σ.q a b else σ.q a b
    seq := fun x => if x = m then σ.seq m + 1 else σ.seq x
    cur := fun x => if x = m then some i else σ.cur x
    used := i :: σ.used }

def deliverR (σ : Net) (a b : Node) (u : Update) (r : NodeSt × Bool) : Net :=
  { st := fun x => if x = b then r.1 else σ.st x
    q := fun x y =>
      if x = a ∧ y = b then (σ.q a b).erase u
      else if r.2 = true ∧ x = b ∧ y ≠ a ∧ hasKey (adj b) y then u :: σ.q x y
      else σ.q x y
    seq := σ.seq
    cur := σ.cur
    used := σ.used }

def deliver (σ : Net) (a b : Node) (u : Update) : Net :=
  deliverR adj σ a b u (handle b (σ.st b) u)

inductive Step : Net → Net → Prop
  | orig (σ : Net) (m : Node) (i : UId) : i ∉ σ.used → Step σ (originate adj σ m i)
  | dlv (σ : Net) (a b : Node) (u : Update) : u ∈ σ.q a b → Step σ (deliver adj σ a b u)

inductive Reach (σ0 : Net) : Net → Prop
  | base : Reach σ0 σ0
  | step {σ σ'} : Reach σ0 σ → Step adj σ σ' → Reach σ0 σ'

variable {adj : Node → Adj}

/-- The relay flag is set exactly when the update is accepted: another node's, with a new id and a number above the
recorded one.  The flag keys what happens to `info` and `known`; the id is recorded for every update of another node
that was not seen before, accepted or not. -/
theorem handle_spec (me : Node) (s : NodeSt) (u : Update) :
    ((handle me s u).2 = true ↔ u.origin ≠ me ∧ u.id ∉ s.seen ∧ ∀ k, s.info u.origin = some k → k < u.seq) ∧
    (∀ j, j ∈ (handle me s u).1.seen ↔ j ∈ s.seen ∨ (j = u.id ∧ u.origin ≠ me)) ∧
    (∀ x, (handle me s u).1.info x = if (handle me s u).2 = true ∧ x = u.origin then some u.seq else s.info x) ∧
    (handle me s u).1.known = if (handle me s u).2 = true then (accept me s u).known else s.known := by
  unfold handle
  by_cases h1 : u.origin = me
  · simp [h1]
  by_cases h2 : u.id ∈ s.seen
  · simp [h1, h2]
  rw [if_neg h1, if_neg h2]
  cases hk : s.info u.origin with
  | none => simp [accept, h1, h2, or_comm]
  | some k =>
    by_cases h3 : u.seq ≤ k
    · simp [h3, h1, h2, or_comm, Nat.not_lt.2 h3]
    · simp [h3, accept, h1, h2, or_comm, Nat.lt_of_not_le h3]

theorem accept_info (me : Node) (s : NodeSt) (u : Update) (x : Node) :
    (accept me s u).info x = if x = u.origin then some u.seq else s.info x := rfl
theorem accept_seen (me : Node) (s : NodeSt) (u : Update) : (accept me s u).seen = s.seen := rfl

structure Topo (adj : Node → Adj) : Prop where
  sym : ∀ a b, hasKey (adj a) b = true → hasKey (adj b) a = true
  irrefl : ∀ a, hasKey (adj a) a = false

theorem filter_ne_self_of_not_key {l : Adj} {o : Node} (h : hasKey l o = false) : l.filter (fun e => e.1 != o) = l :=
  List.filter_eq_self.mpr fun e he => by simpa using List.any_eq_false.1 h e he

theorem accept_known_origin (ht : Topo adj) {me : Node} {s : NodeSt} {u : Update}
    (hme : u.origin ≠ me) (hc : u.conns = adj u.origin) :
    (accept me s u).known u.origin = some (adj u.origin) := by
  simp only [accept]
  split
  · next h => rw [h, hc]
  · simp only [prune, hme, if_false]
    have : hasKey u.conns u.origin = false := by rw [hc]; exact ht.irrefl _
    simp only [this, Bool.false_eq_true, if_false, if_true, Option.map_some]
    rw [hc, filter_ne_self_of_not_key (ht.irrefl _)]

theorem accept_known_other (ht : Topo adj) {me : Node} {s : NodeSt} {u : Update} {m : Node}
    (hm : m ≠ u.origin) (hmme : m ≠ me) (hc : u.conns = adj u.origin) (hk : s.known m = some (adj m)) :
    (accept me s u).known m = some (adj m) := by
  simp only [accept]
  split
  · exact hk
  · simp only [prune, hmme, if_false, hm]
    split
    · exact hk
    · next hnk =>
      -- the origin does not list `m`, so by symmetry `m` does not list the origin and the prune takes nothing
      rw [hk, Option.map_some, filter_ne_self_of_not_key]
      exact Bool.eq_false_iff.2 fun hh => hnk (hc ▸ ht.sym m u.origin hh)

theorem originate_seq (σ : Net) (m i x) :
    (originate adj σ m i).seq x = if x = m then σ.seq m + 1 else σ.seq x := rfl
theorem originate_cur (σ : Net) (m i x) : (originate adj σ m i).cur x = if x = m then some i else σ.cur x := rfl

theorem mem_originate_q {σ : Net} {m i a b u} : u ∈ (originate adj σ m i).q a b ↔
    u ∈ σ.q a b ∨ (u = ⟨m, i, σ.seq m + 1, adj m⟩ ∧ a = m ∧ hasKey (adj m) b = true) := by
  simp only [originate]
  split
  · next h => simp [h, or_comm]
  · next h => simp only [iff_self_or]; rintro ⟨-, h1, h2⟩; exact absurd ⟨h1, h2⟩ h

section
variable {σ : Net} {a b x y : Node} {u u' : Update} {r : NodeSt × Bool}

@[simp] theorem deliver_seq (σ : Net) (a b u) (r : NodeSt × Bool) : (deliverR adj σ a b u r).seq = σ.seq := rfl
@[simp] theorem deliver_cur (σ : Net) (a b u) (r : NodeSt × Bool) : (deliverR adj σ a b u r).cur = σ.cur := rfl
@[simp] theorem deliver_used (σ : Net) (a b u) (r : NodeSt × Bool) : (deliverR adj σ a b u r).used = σ.used := rfl
theorem deliver_st_b : (deliverR adj σ a b u r).st b = r.1 := if_pos rfl
theorem deliver_st_ne (h : x ≠ b) : (deliverR adj σ a b u r).st x = σ.st x := if_neg h

theorem mem_deliver_q (h : u' ∈ (deliverR adj σ a b u r).q x y) :
    u' ∈ σ.q x y ∨ (u' = u ∧ r.2 = true ∧ x = b ∧ y ≠ a ∧ hasKey (adj b) y = true) := by
  simp only [deliverR] at h
  split at h
  · next hc => obtain ⟨rfl, rfl⟩ := hc; exact .inl (List.mem_of_mem_erase h)
  · split at h
    · next hc => exact (List.mem_cons.mp h).symm.imp id fun h => ⟨h, hc⟩
    · exact .inl h

/-- everything stays queued but the copy delivered -/
theorem mem_q_deliver (h : u' ∈ σ.q x y) (hne : x = a → y = b → u' ≠ u) : u' ∈ (deliverR adj σ a b u r).q x y := by
  simp only [deliverR]
  split
  · next hc => obtain ⟨rfl, rfl⟩ := hc; exact (List.mem_erase_of_ne (hne rfl rfl)).mpr h
  · split
    · exact List.mem_cons_of_mem _ h
    · exact h

theorem relayed_mem (hr : r.2 = true) (hy : y ≠ a) (hk : hasKey (adj b) y = true) :
    u ∈ (deliverR adj σ a b u r).q b y := by
  have : ¬(b = a ∧ y = b) := fun h => hy (h.2.trans h.1)
  simp [deliverR, this, hr, hy, hk]

end

def Upd (σ : Net) (n m : Node) : Prop := (σ.st n).info m = some (σ.seq m)

structure Good (adj : Node → Adj) (seq0 : Node → Nat) (σ : Net) : Prop where
  seqMono : ∀ m, seq0 m ≤ σ.seq m
  noFuture : ∀ n m k, (σ.st n).info m = some k → k ≤ σ.seq m
  seenUsed : ∀ n i, i ∈ (σ.st n).seen → i ∈ σ.used
  curUsed : ∀ m i, σ.cur m = some i → i ∈ σ.used
  qOk : ∀ a b u, u ∈ σ.q a b → hasKey (adj a) b = true ∧ u.seq ≤ σ.seq u.origin ∧ u.id ∈ σ.used ∧
          u.conns = adj u.origin
  qCur : ∀ a b u, u ∈ σ.q a b → u.seq = σ.seq u.origin → σ.cur u.origin = some u.id ∧ (a = u.origin ∨ Upd σ a u.origin)
  idUniq : ∀ a b u m, u ∈ σ.q a b → σ.cur m = some u.id → u.origin = m ∧ u.seq = σ.seq m
  seenCur : ∀ c m i, σ.cur m = some i → i ∈ (σ.st c).seen → c ≠ m → Upd σ c m
  K : ∀ m, seq0 m < σ.seq m → ∀ n, (n = m ∨ Upd σ n m) → ∀ b, hasKey (adj n) b = true → b ≠ m →
        Upd σ b m ∨ ∃ u, u ∈ σ.q n b ∧ u.origin = m ∧ u.seq = σ.seq m ∧ u.id ∉ (σ.st b).seen
  K2 : ∀ n m, n ≠ m → seq0 m < σ.seq m → Upd σ n m → (σ.st n).known m = some (adj m)

theorem good_originate {seq0 : Node → Nat} {σ : Net} (hg : Good adj seq0 σ)
    (m : Node) (i : UId) (hi : i ∉ σ.used) : Good adj seq0 (originate adj σ m i) := by
  have seqM : (originate adj σ m i).seq m = σ.seq m + 1 := by rw [originate_seq, if_pos rfl]
  have seqNe : ∀ {x}, x ≠ m → (originate adj σ m i).seq x = σ.seq x := fun h => by rw [originate_seq, if_neg h]
  have curNe : ∀ {x}, x ≠ m → (originate adj σ m i).cur x = σ.cur x := fun h => by rw [originate_cur, if_neg h]
  have seqLe : ∀ x, σ.seq x ≤ (originate adj σ m i).seq x := by
    intro x
    by_cases h : x = m
    · rw [h, seqM]; exact Nat.le_succ _
    · rw [seqNe h]; exact Nat.le_refl _
  -- nobody is up to date about `m` any more; about the others nothing changes
  have upd : ∀ n x, Upd (originate adj σ m i) n x ↔ x ≠ m ∧ Upd σ n x := by
    intro n x
    by_cases h : x = m
    · subst h; rw [Upd, seqM]
      exact ⟨fun h => by have := hg.noFuture n x _ h; omega, fun h => absurd rfl h.1⟩
    · rw [Upd, seqNe h]; exact ⟨fun hu => ⟨h, hu⟩, fun hu => hu.2⟩
  -- a current id that was in use before is the current id of the same node as before, and that is not `m`
  have curOld : ∀ {x j}, (originate adj σ m i).cur x = some j → j ∈ σ.used → x ≠ m ∧ σ.cur x = some j := by
    intro x j hc hj
    rw [originate_cur] at hc
    split at hc
    · cases hc; exact absurd hj hi
    · next h => exact ⟨h, hc⟩
  -- an update already in flight is not `m`'s current one
  have old : ∀ {a b u}, u ∈ σ.q a b → u.seq = (originate adj σ m i).seq u.origin → u.origin ≠ m := by
    intro a b u h hs ho
    have := (hg.qOk a b u h).2.1
    rw [ho, seqM] at hs; rw [ho] at this; omega
  refine ⟨fun x => Nat.le_trans (hg.seqMono x) (seqLe x), fun n x k hk => Nat.le_trans (hg.noFuture n x k hk) (seqLe x),
    fun n j hj => List.mem_cons_of_mem _ (hg.seenUsed n j hj), ?_, ?_, ?_, ?_, ?_, ?_, ?_⟩
  · intro x j hj
    rw [originate_cur] at hj
    split at hj
    · cases hj; exact List.mem_cons_self
    · exact List.mem_cons_of_mem _ (hg.curUsed x j hj)
  · intro a b u hu
    rcases mem_originate_q.1 hu with h | ⟨rfl, rfl, hb⟩
    · obtain ⟨h1, h2, h3, h4⟩ := hg.qOk a b u h
      exact ⟨h1, Nat.le_trans h2 (seqLe _), List.mem_cons_of_mem _ h3, h4⟩
    · exact ⟨hb, Nat.le_of_eq seqM.symm, List.mem_cons_self, rfl⟩
  · intro a b u hu hseq
    rcases mem_originate_q.1 hu with h | ⟨rfl, rfl, hb⟩
    · have hne := old h hseq
      rw [seqNe hne] at hseq
      obtain ⟨h1, h2⟩ := hg.qCur a b u h hseq
      exact ⟨(curNe hne).trans h1, h2.imp id fun h => (upd _ _).2 ⟨hne, h⟩⟩
    · exact ⟨by rw [originate_cur, if_pos rfl], .inl rfl⟩
  · intro a b u x hu hc
    rcases mem_originate_q.1 hu with h | ⟨rfl, rfl, hb⟩
    · obtain ⟨hx, hc⟩ := curOld hc (hg.qOk a b u h).2.2.1
      rw [seqNe hx]
      exact hg.idUniq a b u x h hc
    · by_cases hx : x = a
      · subst hx; exact ⟨rfl, seqM.symm⟩
      · exact absurd (hg.curUsed x i ((curNe hx).symm.trans hc)) hi
  · intro c x j hc hj hcx
    obtain ⟨hx, hc⟩ := curOld hc (hg.seenUsed c j hj)
    exact (upd c x).2 ⟨hx, hg.seenCur c x j hc hj hcx⟩
  · intro x hx n hn b hb hbx
    by_cases hxm : x = m
    · -- only `m` itself is up to date about `m`, and its update is on its way to every neighbour under the new id
      subst hxm
      obtain rfl : n = x := hn.resolve_right fun h => ((upd n x).1 h).1 rfl
      exact .inr ⟨_, mem_originate_q.2 (.inr ⟨rfl, rfl, hb⟩), rfl, seqM.symm, fun h => hi (hg.seenUsed b i h)⟩
    · rw [seqNe hxm] at hx ⊢
      rcases hg.K x hx n (hn.imp id fun h => ((upd n x).1 h).2) b hb hbx with h | ⟨u, hu, h⟩
      · exact .inl ((upd b x).2 ⟨hxm, h⟩)
      · exact .inr ⟨u, mem_originate_q.2 (.inl hu), h⟩
  · intro n x hnx hx hupd
    obtain ⟨hxm, hupd⟩ := (upd n x).1 hupd
    rw [seqNe hxm] at hx
    exact hg.K2 n x hnx hx hupd

theorem good_deliver (ht : Topo adj) {seq0 : Node → Nat} {σ : Net} (hg : Good adj seq0 σ)
    {a b : Node} {u : Update} (hu : u ∈ σ.q a b) : Good adj seq0 (deliver adj σ a b u) := by
  obtain ⟨-, huseq, huid, huconns⟩ := hg.qOk a b u hu
  obtain ⟨hrel, hseen, hinfo, hknown⟩ := handle_spec b (σ.st b) u
  unfold deliver
  generalize handle b (σ.st b) u = r at hrel hseen hinfo hknown
  have seen' : ∀ n j, j ∈ ((deliverR adj σ a b u r).st n).seen ↔
      j ∈ (σ.st n).seen ∨ (n = b ∧ j = u.id ∧ u.origin ≠ b) := by
    intro n j
    by_cases hn : n = b
    · subst hn; rw [deliver_st_b, hseen]; simp
    · rw [deliver_st_ne hn]; simp [hn]
  have info' : ∀ n x, ((deliverR adj σ a b u r).st n).info x =
      if n = b ∧ r.2 = true ∧ x = u.origin then some u.seq else (σ.st n).info x := by
    intro n x
    by_cases hn : n = b
    · subst hn; rw [deliver_st_b, hinfo]; simp
    · rw [deliver_st_ne hn, if_neg fun h => hn h.1]
  -- who is up to date afterwards: whoever was (a receiver that accepts was not: the number is above what it knew and not
  -- above the origin's counter), and `b` if it accepts the current update of its origin
  have mono : ∀ {n x}, Upd σ n x → Upd (deliverR adj σ a b u r) n x := by
    intro n x h
    rw [Upd, info']; split
    · next hc =>
      obtain ⟨rfl, hr, rfl⟩ := hc
      have := (hrel.1 hr).2.2 _ h
      omega
    · exact h
  have accepted : r.2 = true → u.seq = σ.seq u.origin → Upd (deliverR adj σ a b u r) b u.origin := fun hr hs => by
    rw [Upd, info', if_pos ⟨rfl, hr, rfl⟩, hs]; rfl
  have seenCur' : ∀ c x j, σ.cur x = some j → j ∈ ((deliverR adj σ a b u r).st c).seen → c ≠ x →
      Upd (deliverR adj σ a b u r) c x := by
    intro c x j hc hj hcx
    rcases (seen' c j).1 hj with h | ⟨rfl, rfl, _⟩
    · exact mono (hg.seenCur c x j hc h hcx)
    · -- `c` has just been handed `x`'s current update.  Was it not up to date, it accepts: the id is unseen (`seenCur`)
      -- and the number above what it knows
      obtain ⟨rfl, hsq⟩ := hg.idUniq a c u x hu hc
      by_cases hup : Upd σ c u.origin
      · exact mono hup
      · refine accepted (hrel.2 ⟨hcx.symm, fun hs => hup (hg.seenCur c _ _ hc hs hcx), fun k hk => ?_⟩) hsq
        have := hg.noFuture c _ k hk
        exact Nat.lt_of_le_of_ne (hsq ▸ this) fun e => hup (by rw [Upd, hk, e, hsq])
  refine ⟨hg.seqMono, ?_, ?_, hg.curUsed, ?_, ?_, ?_, seenCur', ?_, ?_⟩
  · intro n x k hk
    rw [info'] at hk
    split at hk
    · next hc => cases hk; rw [hc.2.2]; exact huseq
    · exact hg.noFuture _ _ _ hk
  · intro n j hj
    rcases (seen' n j).1 hj with h | ⟨_, rfl, _⟩
    · exact hg.seenUsed n j h
    · exact huid
  · intro x y u' h
    rcases mem_deliver_q h with h | ⟨rfl, _, rfl, _, hy⟩
    · exact hg.qOk x y u' h
    · exact ⟨hy, huseq, huid, huconns⟩
  · intro x y u' h hs
    rcases mem_deliver_q h with h | ⟨rfl, hr, rfl, _, _⟩
    · obtain ⟨h1, h2⟩ := hg.qCur x y u' h hs
      exact ⟨h1, h2.imp id mono⟩
    · exact ⟨(hg.qCur a x u' hu hs).1, .inr (accepted hr hs)⟩
  · intro x y u' m h hc
    rcases mem_deliver_q h with h | ⟨rfl, _⟩
    · exact hg.idUniq x y u' m h hc
    · exact hg.idUniq a b u' m hu hc
  · intro x hx n hn b' hb' hb'x
    -- A neighbour that has seen the id of `x`'s current update is up to date (`seenCur'`), so in each case it is enough
    -- to find a copy queued towards `b'`.
    have hn : (n = x ∨ Upd σ n x) ∨ (n = b ∧ r.2 = true ∧ x = u.origin ∧ u.seq = σ.seq x) := by
      rcases hn with h | h
      · exact .inl (.inl h)
      · rw [Upd, info'] at h; split at h
        · next hc => exact .inr ⟨hc.1, hc.2.1, hc.2.2, Option.some.inj h⟩
        · exact .inl (.inr h)
    rcases hn with hold | ⟨rfl, hr, rfl, hsq⟩
    · rcases hg.K x hx n hold b' hb' hb'x with h | ⟨u', hu', ho, hs, _⟩
      · exact .inl (mono h)
      · by_cases hs' : u'.id ∈ ((deliverR adj σ a b u r).st b').seen
        · have hcur := (hg.qCur n b' u' hu' (by rw [ho]; exact hs)).1
          exact .inl (seenCur' b' x _ (ho ▸ hcur) hs' hb'x)
        · -- the old copy is still queued: the one delivered just now is seen at `b`
          refine .inr ⟨u', mem_q_deliver hu' ?_, ho, hs, hs'⟩
          rintro - rfl rfl
          exact hs' ((seen' _ _).2 (.inr ⟨rfl, rfl, ho ▸ hb'x.symm⟩))
    · -- `n` has just accepted `x`'s current update and relays it to everyone but the sender, who is the origin or up to
      -- date
      obtain ⟨hcur, hsender⟩ := hg.qCur a n u hu hsq
      by_cases hs' : u.id ∈ ((deliverR adj σ a n u r).st b').seen
      · exact .inl (seenCur' b' _ _ hcur hs' hb'x)
      · by_cases hb'a : b' = a
        · subst hb'a; exact .inl (mono (hsender.resolve_left hb'x))
        · exact .inr ⟨u, relayed_mem hr hb'a hb', rfl, hsq, hs'⟩
  · intro n x hnx hx hupd
    rw [Upd, info'] at hupd
    by_cases hn : n = b
    · subst hn; rw [deliver_st_b, hknown]
      by_cases hr : r.2 = true
      · rw [if_pos hr]
        by_cases hxo : x = u.origin
        · subst hxo; exact accept_known_origin ht (hrel.1 hr).1 huconns
        · rw [if_neg fun h => hxo h.2.2] at hupd
          exact accept_known_other ht hxo (Ne.symm hnx) huconns (hg.K2 n x hnx hx hupd)
      · rw [if_neg hr]; rw [if_neg fun h => hr h.2.1] at hupd; exact hg.K2 n x hnx hx hupd
    · rw [deliver_st_ne hn]; rw [if_neg fun h => hn h.1] at hupd; exact hg.K2 n x hnx hx hupd

theorem good_step (ht : Topo adj) {seq0 : Node → Nat} {σ σ' : Net} (hg : Good adj seq0 σ)
    (hs : Step adj σ σ') : Good adj seq0 σ' := by
  cases hs with
  | orig m i hi => exact good_originate hg m i hi
  | dlv a b u hu => exact good_deliver ht hg hu

theorem good_reach (ht : Topo adj) {seq0 : Node → Nat} {σ0 σ : Net} (h0 : Good adj seq0 σ0)
    (hr : Reach adj σ0 σ) : Good adj seq0 σ := by
  induction hr with
  | base => exact h0
  | step _ hs ih => exact good_step ht ih hs

/-- a quiescent start state with nobody knowing the future is Good w.r.t. its own counters (no field mentions `adj`) -/
structure Start (adj : Node → Adj) (σ0 : Net) : Prop where
  quiet : ∀ a b, σ0.q a b = []
  noFuture : ∀ n m k, (σ0.st n).info m = some k → k ≤ σ0.seq m
  seenUsed : ∀ n i, i ∈ (σ0.st n).seen → i ∈ σ0.used
  curUsed : ∀ m i, σ0.cur m = some i → i ∈ σ0.used
  seenCur : ∀ c m i, σ0.cur m = some i → i ∈ (σ0.st c).seen → c ≠ m → Upd σ0 c m

theorem good_start {adj0 : Node → Adj} {σ0 : Net} (h : Start adj0 σ0) : Good adj σ0.seq σ0 := by
  have empty : ∀ {a b u}, u ∉ σ0.q a b := fun hu => by rw [h.quiet] at hu; cases hu
  exact ⟨fun _ => Nat.le_refl _, h.noFuture, h.seenUsed, h.curUsed, fun _ _ _ hu => absurd hu empty,
    fun _ _ _ hu => absurd hu empty, fun _ _ _ _ hu => absurd hu empty, h.seenCur,
    fun _ hm => absurd hm (Nat.lt_irrefl _), fun _ _ _ hm => absurd hm (Nat.lt_irrefl _)⟩

/-- connectivity in the true topology -/
inductive Conn (adj : Node → Adj) (m : Node) : Node → Prop
  | refl : Conn adj m m
  | step {n b : Node} : Conn adj m n → hasKey (adj n) b = true → Conn adj m b

/-- what the invariant gives when nothing is in flight: field `K` closes the nodes up to date about `m` under adjacency, `K2`
says what they hold -/
theorem good_quiet_truth {seq0 : Node → Nat} {σ : Net} (hg : Good adj seq0 σ) (hquiet : ∀ a b, σ.q a b = [])
    {m : Node} (horig : seq0 m < σ.seq m) {n : Node} (hconn : Conn adj m n) (hnm : n ≠ m) :
    (σ.st n).known m = some (adj m) := by
  have closed : ∀ x, Conn adj m x → x = m ∨ Upd σ x m := by
    intro x hx
    induction hx with
    | refl => exact .inl rfl
    | @step x b _ hk ih =>
      by_cases hb : b = m
      · exact .inl hb
      · rcases hg.K m horig x ih b hk hb with h | ⟨u, hu, _⟩
        · exact .inr h
        · rw [hquiet] at hu; cases hu
  exact hg.K2 n m hnm horig ((closed n hconn).resolve_left hnm)

/-- **One flooding round from a quiescent state.** After every node has originated at least once and
    the network is quiescent again, every node knows the true adjacency of every node of its component,
    whatever the interleaving of originations and deliveries was. -/
theorem flood_round_truth (ht : Topo adj) {σ0 σ : Net} (h0 : Start adj σ0)
    (hr : Reach adj σ0 σ) (hquiet : ∀ a b, σ.q a b = [])
    (m : Node) (horig : σ0.seq m < σ.seq m) (n : Node) (hconn : Conn adj m n) (hnm : n ≠ m) :
    (σ.st n).known m = some (adj m) :=
  good_quiet_truth (good_reach ht (good_start h0) hr) hquiet horig hconn hnm

end Receptor.FloodNet
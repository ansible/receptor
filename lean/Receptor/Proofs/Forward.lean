import Receptor.Model.Forward
namespace Receptor.Forward

/-- `IsRoute net p [v0, …, vd]`: the routing tables lead hop by hop from `v0` to
`vd = p.toNode`; every node before the destination lets the packet pass its firewall and
has a connection to the next hop. -/
def IsRoute (net : Net) (p : Packet) : List Node → Prop
  | [] => False
  | [v] => v = p.toNode
  | v :: w :: rest =>
    v ≠ p.toNode ∧ (net v).fw p.fromNode p.fromSvc p.toNode p.toSvc = .accept ∧
    (net v).route p.toNode = some w ∧ (net v).conn w = true ∧ IsRoute net p (w :: rest)

instance instDecIsRoute (net : Net) (p : Packet) : (l : List Node) → Decidable (IsRoute net p l)
  | [] => isFalse (by simp [IsRoute])
  | [v] => by unfold IsRoute; exact inferInstance
  | v :: w :: rest =>
    have := instDecIsRoute net p (w :: rest)
    by unfold IsRoute; exact inferInstance

/-- consecutive pairs of a node list: the relays along it -/
def links : List Node → List (Node × Node)
  | v :: w :: rest => (v, w) :: links (w :: rest)
  | _ => []

theorem links_length (v : Node) (vs : List Node) : (links (v :: vs)).length = vs.length := by
  induction vs generalizing v with
  | nil => simp [links]
  | cons w rest ih => simp [links, ih]

/-- a route is a matter of the packet's addresses, not of its budget -/
theorem isRoute_ttl {net : Net} {p : Packet} {t : Nat} : ∀ {l : List Node}, IsRoute net p l → IsRoute net { p with ttl := t } l
  | [], h => h
  | [_], h => h
  | _ :: _ :: _, ⟨a, b, c, d, e⟩ => ⟨a, b, c, d, isRoute_ttl e⟩

theorem ite_eq_iff' {α : Sort _} {c : Prop} [Decidable c] {a b x : α} :
    (if c then a else b) = x ↔ (c ∧ a = x) ∨ (¬ c ∧ b = x) := by
  by_cases h : c <;> simp [h]

/-! ## `handle`, branch by branch

The four ways through `handleMessageData`: dropped by the firewall, rejected by it, dispatched at this node,
handed to `forwardMessage`. -/
section handle
variable {H : HopRule} {me : Node} {cfg : NodeCfg} {p : Packet}

theorem handle_drop (hfw : cfg.fw p.fromNode p.fromSvc p.toNode p.toSvc = .drop) :
    handle H me cfg p = .dropped := by
  simp only [handle, hfw]

theorem handle_reject (hfw : cfg.fw p.fromNode p.fromSvc p.toNode p.toSvc = .reject) :
    handle H me cfg p = if isNotice H p then .silent else .spawn (mkNotice me cfg p .rejected) := by
  simp only [handle, hfw]

theorem handle_local (hfw : cfg.fw p.fromNode p.fromSvc p.toNode p.toSvc = .accept) (hto : p.toNode = me) :
    handle H me cfg p =
      if p.toSvc = pingSvc then
        if H.pingGuard ∧ p.fromSvc = pingSvc then .silent
        else if p.fromNode = me ∧ p.fromSvc = pingSvc then .diverges
        else .spawn { fromNode := me, fromSvc := pingSvc, toNode := p.fromNode, toSvc := p.fromSvc,
                      ttl := cfg.maxHops, body := .raw [] }
      else if p.toSvc = unreachSvc then
        match p.body with
        | .notice n => .published n
        | .raw _ => .err .badNotice
      else if cfg.listener p.toSvc then .delivered
      else if p.fromNode = me then .err .serviceUnknown
      else .spawn (mkNotice me cfg p .serviceUnknown) := by
  subst hto
  simp only [handle, hfw, if_true]
  rfl

theorem handle_transit (hfw : cfg.fw p.fromNode p.fromSvc p.toNode p.toSvc = .accept) (hto : p.toNode ≠ me) :
    handle H me cfg p =
      if p.ttl ≤ H.expireAt then
        if isNotice H p then .silent else .spawn (mkNotice me cfg p .expired)
      else match cfg.route p.toNode with
        | none => .err .noRoute
        | some nh => if cfg.conn nh then .forward nh else .err .noConn := by
  simp only [handle, hfw, hto, if_false]
  rfl

theorem handle_eq_forward {nh : Node} : handle H me cfg p = .forward nh ↔
    cfg.fw p.fromNode p.fromSvc p.toNode p.toSvc = .accept ∧ p.toNode ≠ me ∧ H.expireAt < p.ttl ∧
      cfg.route p.toNode = some nh ∧ cfg.conn nh = true := by
  -- in each of the four branches the tree of tests ends in `.forward nh` on one path only: `ite_eq_iff'` turns the
  -- tree into its path conditions and `simp` discards the paths that end in another constructor
  cases hfw : cfg.fw p.fromNode p.fromSvc p.toNode p.toSvc with
  | drop => simp [handle_drop hfw]
  | reject => simp [handle_reject hfw, ite_eq_iff']
  | accept =>
    by_cases hto : p.toNode = me
    · rw [handle_local hfw hto]; cases p.body <;> simp [ite_eq_iff', hto]
    · rw [handle_transit hfw hto]
      cases cfg.route p.toNode <;> simp +contextual [ite_eq_iff', hto, and_comm]

theorem handle_eq_delivered : handle H me cfg p = .delivered ↔
    cfg.fw p.fromNode p.fromSvc p.toNode p.toSvc = .accept ∧ p.toNode = me ∧ p.toSvc ≠ pingSvc ∧
      p.toSvc ≠ unreachSvc ∧ cfg.listener p.toSvc = true := by
  cases hfw : cfg.fw p.fromNode p.fromSvc p.toNode p.toSvc with
  | drop => simp [handle_drop hfw]
  | reject => simp [handle_reject hfw, ite_eq_iff']
  | accept =>
    by_cases hto : p.toNode = me
    · rw [handle_local hfw hto]; cases p.body <;> simp [ite_eq_iff', hto]
    · rw [handle_transit hfw hto]; cases cfg.route p.toNode <;> simp [ite_eq_iff', hto]

end handle

theorem nextTtl_std (t : Nat) (h : t + 1 < 256) : nextTtl stdHops (t + 1) = t := by
  simp only [nextTtl, stdHops]
  rw [Nat.add_right_comm, Nat.add_sub_cancel, Nat.add_mod_right, Nat.mod_eq_of_lt (Nat.lt_of_succ_lt h)]

section walk
variable {H : HopRule} {net : Net} {fuel ttl : Nat} {cur nh : Node} {p : Packet}

theorem walk_forward (h : handle H cur (net cur) { p with ttl := ttl } = .forward nh) :
    walk H net (fuel + 1) ttl cur p =
      ((cur, nh) :: (walk H net fuel (nextTtl H ttl) nh p).1, (walk H net fuel (nextTtl H ttl) nh p).2) := by
  simp only [walk, h]

theorem walk_stop (h : ∀ nh, handle H cur (net cur) { p with ttl := ttl } ≠ .forward nh) :
    walk H net (fuel + 1) ttl cur p = ([], (cur, handle H cur (net cur) { p with ttl := ttl })) := by
  rw [walk]
  split
  · exact absurd ‹_› (h _)
  · rfl

/-- a node of the route before the destination relays to its successor while the budget lasts -/
theorem handle_on_route {v w : Node} {rest : List Node} (hr : IsRoute net p (v :: w :: rest)) (h : 1 ≤ ttl) :
    handle stdHops v (net v) { p with ttl := ttl } = .forward w :=
  handle_eq_forward.mpr ⟨hr.2.1, fun e => hr.1 e.symm, h, hr.2.2.1, hr.2.2.2.1⟩

end walk

/-- **Hop bound**: whatever the routing tables, firewalls and listeners of every node are,
a packet is relayed at most `ttl` times. -/
theorem walk_length_le (net : Net) : ∀ (fuel ttl : Nat) (cur : Node) (p : Packet), ttl < 256 →
    (walk stdHops net fuel ttl cur p).1.length ≤ ttl := by
  intro fuel
  induction fuel with
  | zero => intro ttl cur p _; exact Nat.zero_le _
  | succ f ih =>
    intro ttl cur p httl
    rw [walk]
    split
    · rename_i nh hf
      -- a relay needs a positive budget, and uses up one
      obtain ⟨t, rfl⟩ := Nat.exists_eq_add_one.mpr (handle_eq_forward.mp hf).2.2.1
      rw [nextTtl_std t httl]
      exact Nat.succ_le_succ (ih t nh p (Nat.lt_of_succ_lt httl))
    · exact Nat.zero_le _

/-- the packet reaches the end of a route of `d` links when the budget allows (`d ≤ ttl`):
exactly the route's links are used and the destination handles it with budget `ttl - d`.
(`ttl + 1` steps of fuel are what `route` grants; a relay uses up one of each.) -/
theorem walk_route {net : Net} {p : Packet} {vs : List Node} {v0 : Node} {ttl : Nat}
    (hr : IsRoute net p (v0 :: vs)) (hlen : vs.length ≤ ttl) (httl : ttl < 256) :
    walk stdHops net (ttl + 1) ttl v0 p
      = (links (v0 :: vs), ((v0 :: vs).getLast (by simp),
          handle stdHops p.toNode (net p.toNode) { p with ttl := ttl - vs.length })) := by
  induction vs generalizing v0 ttl with
  | nil =>
    cases hr
    -- the destination never relays a packet addressed to itself
    exact walk_stop fun nh h => (handle_eq_forward.mp h).2.1 rfl
  | cons w rest ih =>
    obtain ⟨t, rfl⟩ := Nat.exists_eq_add_one.mpr (Nat.zero_lt_of_lt hlen)
    rw [walk_forward (handle_on_route hr (Nat.succ_pos t)), nextTtl_std t httl,
      ih hr.2.2.2.2 (Nat.le_of_succ_le_succ hlen) (Nat.lt_of_succ_lt httl), List.length_cons, Nat.add_sub_add_right]
    rfl

/-- when the budget is smaller than the route, the packet stops at the node `ttl` links
along the route, and that node reports expiry. -/
theorem walk_expire {net : Net} {p : Packet} {vs : List Node} {v0 : Node} {ttl : Nat}
    (hr : IsRoute net p (v0 :: vs)) (hlen : ttl < vs.length) (httl : ttl < 256) :
    ∃ vt, (v0 :: vs)[ttl]? = some vt ∧
      walk stdHops net (ttl + 1) ttl v0 p
        = (links ((v0 :: vs).take (ttl + 1)),
            (vt, if isNotice stdHops p then .silent else .spawn (mkNotice vt (net vt) p .expired))) := by
  induction vs generalizing v0 ttl with
  | nil => exact absurd hlen (Nat.not_lt_zero _)
  | cons w rest ih =>
    cases ttl with
    | zero =>
      refine ⟨v0, rfl, ?_⟩
      -- out of budget, not at the destination: `forwardMessage` reports expiry
      rw [walk_stop fun nh h => Nat.lt_irrefl 0 (handle_eq_forward.mp h).2.2.1,
        handle_transit (p := { p with ttl := 0 }) hr.2.1 fun e => hr.1 e.symm]
      rfl
    | succ t =>
      obtain ⟨vt, hvt, hw⟩ := ih hr.2.2.2.2 (Nat.lt_of_succ_lt_succ hlen) (Nat.lt_of_succ_lt httl)
      refine ⟨vt, hvt, ?_⟩
      rw [walk_forward (handle_on_route hr (Nat.succ_pos t)), nextTtl_std t httl, hw]
      rfl

end Receptor.Forward

import Receptor.Model.ForwardSched
/-!
# Proofs for `Model/ForwardSched.lean`: a step of one datagram does not change where any datagram ends
-/
namespace Receptor.Forward

theorem advance_fate (H : HopRule) (net : Net) (f : Flight) :
    (match advance H net f with
     | .inl f' => f'.fate H net
     | .inr e => e) = f.fate H net := by
  obtain ⟨id, fuel, ttl, cur, p⟩ := f
  cases fuel with
  | zero => simp [advance, Flight.fate, walk]
  | succ n =>
    simp only [advance, Flight.fate, walk]
    generalize handle H cur (net cur) { p with ttl := ttl } = o
    cases o <;> rfl

theorem stepFlights_perm (H : HopRule) (net : Net) : ∀ (l : List Flight) (i : Nat),
    ((stepFlights H net i l).2.toList ++ (stepFlights H net i l).1.map (Flight.fate H net)).Perm (l.map (Flight.fate H net))
  | [], i => by simp [stepFlights]
  | f :: rest, 0 => by
    have h := advance_fate H net f
    simp only [stepFlights]
    cases ha : advance H net f <;> simp_all
  | f :: rest, i + 1 => List.perm_middle.trans ((stepFlights_perm H net rest i).cons _)

def Sky.fates (H : HopRule) (net : Net) (s : Sky) : List Ended := s.ended ++ s.flights.map (Flight.fate H net)

theorem step_fates (H : HopRule) (net : Net) (s : Sky) (i : Nat) : ((s.step H net i).fates H net).Perm (s.fates H net) := by
  unfold Sky.step Sky.fates
  simp only [List.append_assoc]
  exact List.Perm.append_left _ (stepFlights_perm H net s.flights i)

theorem run_fates (H : HopRule) (net : Net) : ∀ (sched : List Nat) (s : Sky), ((s.run H net sched).fates H net).Perm (s.fates H net)
  | [], _ => .refl _
  | i :: sched, s => (run_fates H net sched (s.step H net i)).trans (step_fates H net s i)

theorem launch_fates (net : Net) : ∀ (sends : List (Node × Packet)) (k : Nat),
    (launchFrom k sends).map (Flight.fate stdHops net) = aloneFrom net k sends
  | [], _ => rfl
  | (v, p) :: rest, k => by
    simp only [launchFrom, aloneFrom, List.map_cons, launch_fates net rest (k + 1)]
    rfl

/-- whatever the schedule: what has ended, together with where the datagrams still in flight will end, is up to
order what each send of the burst does alone -/
theorem run_launch_fates (net : Net) (sends : List (Node × Packet)) (sched : List Nat) :
    (((launch sends).run stdHops net sched).ended
      ++ ((launch sends).run stdHops net sched).flights.map (Flight.fate stdHops net)).Perm (aloneFrom net 0 sends) := by
  simpa [Sky.fates, launch, launch_fates] using run_fates stdHops net sched (launch sends)

theorem aloneFrom_ids (net : Net) : ∀ (sends : List (Node × Packet)) (k : Nat),
    (aloneFrom net k sends).map Prod.fst = List.range' k sends.length
  | [], _ => rfl
  | (v, p) :: rest, k => by simp [aloneFrom, aloneFrom_ids net rest (k + 1), List.range'_succ]

/-- steps still allowed to the datagrams in flight (every valid pick uses one up) -/
def Sky.budget (s : Sky) : Nat := (s.flights.map (fun f => f.fuel + 1)).sum

theorem advance_fuel {H : HopRule} {net : Net} {f f' : Flight} (h : advance H net f = .inl f') :
    f'.fuel + 1 = f.fuel := by
  unfold advance at h
  split at h
  · cases h
  · split at h <;> cases h
    exact (‹f.fuel = _›).symm

theorem step0_budget (H : HopRule) (net : Net) (s : Sky) : (s.step H net 0).budget ≤ s.budget - 1 := by
  obtain ⟨fl, en⟩ := s
  cases fl with
  | nil => exact Nat.zero_le _
  | cons f rest =>
    simp only [Sky.step, Sky.budget, stepFlights, List.map_cons, List.sum_cons]
    cases h : advance H net f with
    | inl f' => simp only [List.map_cons, List.sum_cons, advance_fuel h]; omega
    | inr e => simp only []; omega

theorem drains (H : HopRule) (net : Net) : ∀ (n : Nat) (s : Sky), s.budget ≤ n → (s.run H net (List.replicate n 0)).flights = []
  | 0, ⟨[], _⟩, _ => rfl
  | 0, ⟨_ :: _, _⟩, h => by simp [Sky.budget] at h
  | n + 1, s, h => drains H net n (s.step H net 0) (Nat.le_trans (step0_budget H net s) (Nat.sub_le_of_le_add h))

end Receptor.Forward

import Receptor.Model.Framer
namespace Receptor.Framer

theorem drain_none {buf} (h : getMessage buf = none) : drain buf = ([], buf) := by
  rw [drain]; split
  · rfl
  · rename_i h'; rw [h] at h'; cases h'

theorem drain_some {buf m buf'} (h : getMessage buf = some (m, buf')) :
    drain buf = (m :: (drain buf').1, (drain buf').2) := by
  rw [drain]; split
  · rename_i h'; rw [h] at h'; cases h'
  · rename_i m2 b2 h'; rw [h] at h'; cases h'; rfl

theorem getMessage_append {buf m buf'} (c : Bytes) (h : getMessage buf = some (m, buf')) :
    getMessage (buf ++ c) = some (m, buf' ++ c) := by
  obtain ⟨lo, hi, rfl, e⟩ := getMessage_eq_some.mp h
  exact getMessage_eq_some.mpr ⟨lo, hi, by simp only [List.cons_append, List.append_assoc], e⟩

theorem getMessage_frame (m rest : Bytes) (hm : m.length < 65536) :
    getMessage (frame m ++ rest) = some (m, rest) :=
  getMessage_eq_some.mpr ⟨_, _, rfl, by
    rw [Nat.mod_eq_of_lt (a := m.length / 256) (Nat.div_lt_of_lt_mul hm), Nat.mod_add_div]⟩

theorem drain_frames (msgs : List Bytes) (hm : ∀ m ∈ msgs, m.length < 65536) :
    drain ((msgs.map frame).flatten) = (msgs, []) := by
  induction msgs with
  | nil => rw [drain_none] <;> simp [getMessage]
  | cons m ms ih =>
    obtain ⟨h0, hms⟩ := List.forall_mem_cons.1 hm
    rw [List.map_cons, List.flatten_cons, drain_some (getMessage_frame m _ h0), ih hms]

/-- Key invariant: whatever the schedule, (messages already returned) ++ (messages still
drainable at the end) is what draining the whole input at once gives. -/
theorem runOps_drain (ops : List Op) : ∀ buf : Bytes,
    (runOps buf ops).1 ++ (drain (runOps buf ops).2).1 = (drain (buf ++ chunksOf ops)).1
    ∧ (drain (runOps buf ops).2).2 = (drain (buf ++ chunksOf ops)).2 := by
  induction ops with
  | nil => intro buf; simp [runOps, chunksOf]
  | cons op ops ih =>
    intro buf
    cases op with
    | recv c => simpa [runOps, chunksOf] using ih (buf ++ c)
    | get =>
      simp only [runOps, chunksOf]
      cases hg : getMessage buf with
      | none => exact ih buf
      | some mb =>
        rw [drain_some (getMessage_append (chunksOf ops) hg)]
        exact ⟨congrArg (mb.1 :: ·) (ih mb.2).1, (ih mb.2).2⟩

end Receptor.Framer

import Receptor.Model.Proto
/-! What `admitPeer`, `checkPeer` and `step` can do, case by case: C07 and C11 read their theorems off these. -/
namespace Receptor.Proto

theorem removeConn_poisoned (sh : Shared) (id : Bytes) : (removeConn sh id).poisoned = sh.poisoned := by
  unfold removeConn; split <;> rfl

theorem poison_connections (sh : Shared) (b : Bool) : (poison sh b).connections = sh.connections := by
  cases b <;> rfl

theorem removeConn_nodup (sh : Shared) (id : Bytes) (hn : sh.connections.Nodup) : (removeConn sh id).connections.Nodup := by
  unfold removeConn; split
  · exact hn
  · exact hn.filter _

theorem admitPeer_cases (G : Guards) (B : Backend) (sh : Shared) (s : Sess) (ru : RU) :
    ((admitPeer G B sh s ru).1 = sh ∧ (admitPeer G B sh s ru).2.2 = .ended true) ∨
    (ru.fwd ≠ sh.self ∧ (G.emptyPeerID = true → ru.fwd ≠ []) ∧ notAllowed B ru.fwd = false ∧ ru.fwd ∉ sh.connections ∧
      admitPeer G B sh s ru = ({ sh with connections := sh.connections ++ [ru.fwd] },
        { s with remoteID := ru.fwd, cost := (lookup B.nodeCost ru.fwd).getD B.cost, established := true }, .established)) := by
  unfold admitPeer
  dsimp only
  by_cases h1 : ru.fwd = sh.self
  · rw [if_pos h1]; exact .inl ⟨rfl, rfl⟩
  rw [if_neg h1]
  by_cases h2 : (G.emptyPeerID && decide (ru.fwd = [])) = true
  · rw [if_pos h2]; exact .inl ⟨rfl, rfl⟩
  rw [if_neg h2]
  by_cases h3 : notAllowed B ru.fwd = true
  · rw [if_pos h3]; exact .inl ⟨rfl, rfl⟩
  rw [if_neg h3]
  by_cases h4 : connected sh ru.fwd = true
  · rw [if_pos h4]; exact .inl ⟨rfl, rfl⟩
  rw [if_neg h4]
  exact .inr ⟨h1, fun hg he => h2 (by simp [hg, he]), by simpa using h3, by simpa [connected] using h4, rfl⟩

theorem checkPeer_cases (G : Guards) (sh : Shared) (s : Sess) (ru : RU) :
    ((checkPeer G sh s ru).1 = removeConn sh s.remoteID ∧ (checkPeer G sh s ru).2.2 = .ended true) ∨
    (((checkPeer G sh s ru).1 = sh ∨ (checkPeer G sh s ru).1 = poison sh (poisons G ru)) ∧
      (checkPeer G sh s ru).2.2 = .continue_) := by
  unfold checkPeer
  by_cases h1 : ru.fwd ≠ s.remoteID
  · rw [if_pos h1]; exact .inl ⟨rfl, rfl⟩
  rw [if_neg h1]
  by_cases h2 : ru.nodeID = s.remoteID
  · rw [if_pos h2]
    cases ru.conns.bind fun l => lookup l sh.self with
    | none =>
      cases s.remoteEstablished
      · exact .inr ⟨.inl rfl, rfl⟩
      · exact .inl ⟨rfl, rfl⟩
    | some c =>
      dsimp only
      by_cases h3 : c ≠ s.cost
      · rw [if_pos h3]; exact .inl ⟨rfl, rfl⟩
      · rw [if_neg h3]; exact .inr ⟨.inr rfl, rfl⟩
  · rw [if_neg h2]; exact .inr ⟨.inr rfl, rfl⟩

/-- The dispatch on the datagram's kind; a crash needs a missing guard. -/
theorem step_cases (G : Guards) (B : Backend) (sh : Shared) (s : Sess) (d : Dgram) :
    step G B sh s d = (sh, s, .continue_)
    ∨ (∃ o, step G B sh s d = (sh, s, o) ∧ isCrash o = true
        ∧ (G.emptyDatagram = false ∨ G.adNilEmbedded = false ∨ G.pingFromPing = false))
    ∨ step G B sh s d = (removeConn sh s.remoteID, s, .ended false)
    ∨ (∃ ru, s.established = true ∧ step G B sh s d = checkPeer G sh s ru)
    ∨ (∃ body ru, d = .route body ∧ decodeRU body = some ru ∧ s.established = false
        ∧ step G B sh s d = admitPeer G B sh s ru) := by
  unfold step
  cases d with
  | empty =>
    cases hg : G.emptyDatagram
    · exact .inr (.inl ⟨.panic, rfl, rfl, .inl rfl⟩)
    · exact .inl rfl
  | data k =>
    cases s.established
    · exact .inl rfl
    · cases k with
      | pingLoop =>
        cases hg : G.pingFromPing
        · exact .inr (.inl ⟨.fatal, rfl, rfl, .inr (.inr rfl)⟩)
        · exact .inl rfl
      | _ => exact .inl rfl
  | route body =>
    dsimp only
    cases hd : decodeRU body with
    | none => exact .inl rfl
    | some ru =>
      cases he : s.established
      · exact .inr (.inr (.inr (.inr ⟨body, ru, rfl, hd, rfl, rfl⟩)))
      · exact .inr (.inr (.inr (.inl ⟨ru, rfl, rfl⟩)))
  | advert body wt =>
    dsimp only
    cases s.established
    · exact .inl rfl
    · cases decodeAd body wt with
      | nilEmbedded =>
        cases hg : G.adNilEmbedded
        · exact .inr (.inl ⟨.panic, rfl, rfl, .inr (.inl rfl)⟩)
        · exact .inl rfl
      | _ => exact .inl rfl
  | reject => exact .inr (.inr (.inl rfl))
  | other => exact .inl rfl

theorem step_shared (G : Guards) (B : Backend) (sh : Shared) (s : Sess) (d : Dgram) :
    (step G B sh s d).1 = sh ∨ (step G B sh s d).1 = removeConn sh s.remoteID
    ∨ (∃ ru, (step G B sh s d).1 = poison sh (poisons G ru))
    ∨ (∃ id, id ∉ sh.connections ∧ (step G B sh s d).1 = { sh with connections := sh.connections ++ [id] }) := by
  rcases step_cases G B sh s d with h | ⟨o, h, _⟩ | h | ⟨ru, _, h⟩ | ⟨_, ru, _, _, _, h⟩ <;> rw [h]
  · exact .inl rfl
  · exact .inl rfl
  · exact .inr (.inl rfl)
  · rcases checkPeer_cases G sh s ru with ⟨h1, _⟩ | ⟨h1 | h1, _⟩
    · exact .inr (.inl h1)
    · exact .inl h1
    · exact .inr (.inr (.inl ⟨ru, h1⟩))
  · rcases admitPeer_cases G B sh s ru with ⟨h1, _⟩ | ⟨_, _, _, hc, h1⟩
    · exact .inl h1
    · rw [h1]; exact .inr (.inr (.inr ⟨ru.fwd, hc, rfl⟩))

end Receptor.Proto

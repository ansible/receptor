import Receptor.Model.Firewall
/-! Correctness of the derivative matcher against the usual denotational semantics: the language of each
constructor as an iff, how a match of `cat a b` or `star a` on `c :: s` splits after the first factor, and from these
`Matches (deriv c r) s ↔ Matches r (c :: s)` by one induction on `r`. -/
namespace Receptor.Firewall.Re

/-- the language of a regular expression -/
inductive Matches : Re → Bytes → Prop
  | eps : Matches .eps []
  | chr (c : Nat) : Matches (.chr c) [c]
  | cls (neg : Bool) (rs : List (Nat × Nat)) (c : Nat) : clsMatch neg rs c = true → Matches (.cls neg rs) [c]
  | cat {a b : Re} {s t : Bytes} : Matches a s → Matches b t → Matches (.cat a b) (s ++ t)
  | altL {a b : Re} {s : Bytes} : Matches a s → Matches (.alt a b) s
  | altR {a b : Re} {s : Bytes} : Matches b s → Matches (.alt a b) s
  | starNil {a : Re} : Matches (.star a) []
  | starCons {a : Re} {s t : Bytes} : Matches a s → Matches (.star a) t → Matches (.star a) (s ++ t)

theorem not_matches_none {s : Bytes} : ¬ Matches .none s := nofun

theorem matches_eps {s : Bytes} : Matches .eps s ↔ s = [] :=
  ⟨fun h => by cases h; rfl, fun h => h ▸ .eps⟩

theorem matches_chr {d : Nat} {s : Bytes} : Matches (.chr d) s ↔ s = [d] :=
  ⟨fun h => by cases h; rfl, fun h => h ▸ .chr d⟩

theorem matches_cls {neg : Bool} {rs : List (Nat × Nat)} {s : Bytes} :
    Matches (.cls neg rs) s ↔ ∃ c, s = [c] ∧ clsMatch neg rs c = true :=
  ⟨fun h => by cases h with | cls _ _ c hm => exact ⟨c, rfl, hm⟩, fun ⟨c, hs, hm⟩ => hs ▸ .cls neg rs c hm⟩

theorem matches_cat {a b : Re} {u : Bytes} :
    Matches (.cat a b) u ↔ ∃ s t, u = s ++ t ∧ Matches a s ∧ Matches b t :=
  ⟨fun h => by cases h with | cat h1 h2 => exact ⟨_, _, rfl, h1, h2⟩, fun ⟨_, _, hu, h1, h2⟩ => hu ▸ .cat h1 h2⟩

theorem matches_alt {a b : Re} {s : Bytes} : Matches (.alt a b) s ↔ Matches a s ∨ Matches b s :=
  ⟨fun h => by cases h with | altL h => exact .inl h | altR h => exact .inr h, fun h => h.elim .altL .altR⟩

theorem nullable_iff (r : Re) : nullable r = true ↔ Matches r [] := by
  induction r with
  | cat a b iha ihb => simp [nullable, matches_cat, and_assoc, iha, ihb]
  | alt a b iha ihb => simp [nullable, matches_alt, iha, ihb]
  | star a => exact iff_of_true rfl .starNil
  | _ => simp [nullable, not_matches_none, matches_eps, matches_chr, matches_cls]

/-- in a match of `cat a b` on `c :: s` either `a` takes the `c`, or `a` matches nothing and `b` all of it -/
theorem matches_cat_cons {a b : Re} {c : Nat} {s : Bytes} :
    Matches (.cat a b) (c :: s) ↔
      (∃ s₁ t, s = s₁ ++ t ∧ Matches a (c :: s₁) ∧ Matches b t) ∨ (Matches a [] ∧ Matches b (c :: s)) := by
  constructor
  · rw [matches_cat]
    rintro ⟨s₁, t, hu, h1, h2⟩
    rcases List.cons_eq_append_iff.mp hu with ⟨rfl, rfl⟩ | ⟨s₁', rfl, rfl⟩
    · exact .inr ⟨h1, h2⟩
    · exact .inl ⟨_, _, rfl, h1, h2⟩
  · rintro (⟨s₁, t, rfl, h1, h2⟩ | ⟨h1, h2⟩)
    · exact .cat h1 h2
    · exact .cat h1 h2

/-- a nonempty match of `star a` starts with a nonempty match of `a`: the iterations that match nothing are skipped -/
theorem matches_star_cons {a : Re} {c : Nat} {s : Bytes} :
    Matches (.star a) (c :: s) ↔ ∃ s₁ t, s = s₁ ++ t ∧ Matches a (c :: s₁) ∧ Matches (.star a) t := by
  refine ⟨fun h => ?_, fun ⟨_, _, hs, h1, h2⟩ => hs ▸ .starCons h1 h2⟩
  generalize hr : Re.star a = r, hu : c :: s = u at h
  induction h with
  | @starCons _ s₁ t h1 h2 _ ih =>
    cases hr
    rcases List.cons_eq_append_iff.mp hu with ⟨rfl, rfl⟩ | ⟨s₁', rfl, rfl⟩
    · exact ih rfl rfl
    · exact ⟨_, _, rfl, h1, h2⟩
  | _ => cases hr <;> cases hu  -- no other rule yields `star a` on a nonempty string

theorem deriv_iff (c : Nat) (r : Re) (s : Bytes) : Matches (deriv c r) s ↔ Matches r (c :: s) := by
  induction r generalizing s with
  | none => exact iff_of_false not_matches_none not_matches_none
  | eps => exact iff_of_false not_matches_none (mt matches_eps.mp (List.cons_ne_nil c s))
  | chr d => rw [deriv]; split <;> simp [matches_eps, matches_chr, not_matches_none, *]
  | cls neg rs => rw [deriv]; split <;> simp [matches_eps, matches_cls, not_matches_none, and_assoc, *]
  | alt a b iha ihb => simp only [deriv, matches_alt, iha, ihb]
  | star a iha => simp only [deriv, matches_cat, matches_star_cons, iha]
  | cat a b iha ihb =>
    -- the right side becomes `Matches (cat (deriv c a) b) s ∨ (nullable a = true ∧ Matches (deriv c b) s)`
    simp only [matches_cat_cons, ← iha, ← ihb, ← matches_cat, ← nullable_iff]
    rw [deriv]
    cases nullable a <;> simp [matches_alt]

/-- the derivative matcher decides membership in the language -/
theorem fullMatch_iff (r : Re) (s : Bytes) : fullMatch r s = true ↔ Matches r s := by
  induction s generalizing r with
  | nil => exact nullable_iff r
  | cons c s ih => rw [← deriv_iff]; exact ih _  -- `fullMatch r (c :: s)` unfolds to `fullMatch (deriv c r) s`

end Receptor.Firewall.Re

import Receptor.Model.Results
namespace Receptor.Results

structure Inv (s : St) : Prop where
  lo : s.start ≤ s.pos
  hi : s.pos ≤ s.file.length ∨ s.pos = s.start
  sent : s.sent = (s.file.drop s.start).take (s.pos - s.start)
  rec_le : s.recorded ≤ s.file.length
  fin : finished s.state = true → s.recorded = s.file.length

theorem inv_init (start : Nat) : Inv (init start) := by
  refine ⟨Nat.le_refl _, Or.inr rfl, ?_, ?_, ?_⟩ <;> simp [init, finished]

/-- the slice from `a` to `p`, followed by one read of at most `k` bytes at `p`, is the slice up to the new position -/
theorem take_drop_extend (l : Bytes) (a p k : Nat) (h : a ≤ p) :
    (l.drop a).take (p - a) ++ (l.drop p).take k = (l.drop a).take (p + ((l.drop p).take k).length - a) := by
  rw [Nat.sub_add_comm h, List.take_add, List.drop_drop, Nat.add_sub_of_le h]
  congr 1
  rw [List.length_take, List.take_eq_take_iff, Nat.min_assoc, Nat.min_self]

theorem inv_step (T : Nat → Bool) (s : St) (e : Ev) (h : Inv s) : Inv (step T s e) := by
  cases e with
  | append bs =>
    simp only [step]
    split
    · exact h
    · rename_i hnf
      have hlen : (s.file ++ bs).length = s.file.length + bs.length := List.length_append
      refine ⟨h.lo, ?_, ?_, ?_, fun hf => absurd hf hnf⟩
      · show s.pos ≤ (s.file ++ bs).length ∨ s.pos = s.start
        have := h.hi; omega
      · show s.sent = ((s.file ++ bs).drop s.start).take (s.pos - s.start)
        rw [List.drop_append, List.take_append_of_le_length, h.sent]
        have := h.hi; rw [List.length_drop]; omega
      · show s.recorded ≤ (s.file ++ bs).length
        have := h.rec_le; omega
  | record n =>
    simp only [step]
    split
    · exact h
    · exact ⟨h.lo, h.hi, h.sent, Nat.min_le_right .., fun hf => by simp [finished] at hf⟩
  | finish st =>
    simp only [step]
    split
    · exact h
    · exact ⟨h.lo, h.hi, h.sent, Nat.le_refl _, fun _ => rfl⟩
  | read k =>
    simp only [step]
    split
    · exact h
    · split
      · rename_i hlt
        have hlo := h.lo
        refine ⟨?_, .inl ?_, ?_, h.rec_le, h.fin⟩
        · show s.start ≤ s.pos + _; omega
        · show s.pos + ((s.file.drop s.pos).take k).length ≤ s.file.length
          rw [List.length_take, List.length_drop]; omega
        · show s.sent ++ (s.file.drop s.pos).take k = _
          rw [h.sent]; exact take_drop_extend s.file s.start s.pos k hlo
      · exact ⟨h.lo, h.hi, h.sent, h.rec_le, h.fin⟩
  | check =>
    simp only [step]
    split
    · exact h
    · split <;> exact ⟨h.lo, h.hi, h.sent, h.rec_le, h.fin⟩

theorem inv_run (T : Nat → Bool) (start : Nat) (evs : List Ev) : Inv (run T (init start) evs) :=
  List.foldlRecOn evs (step T) (inv_init start) fun s h e _ => inv_step T s e h

theorem step_start (T : Nat → Bool) (s : St) (e : Ev) : (step T s e).start = s.start := by
  cases e <;> simp only [step, apply_ite St.start, ite_self]

theorem run_start (T : Nat → Bool) (evs : List Ev) (s : St) : (run T s evs).start = s.start :=
  List.foldlRecOn (motive := fun s' => s'.start = s.start) evs (step T) rfl fun s' h e _ => (step_start T s' e).trans h

theorem step_of_ended (T : Nat → Bool) (s : St) (e : Ev) (he : s.ended = true) (hf : finished s.state = true) :
    step T s e = s := by
  cases e <;> simp [step, he, hf]

/-- the reader stops only in a terminal state, having reached the recorded size -/
def EndOK (T : Nat → Bool) (s : St) : Prop := s.ended = true → T s.state = true ∧ s.recorded ≤ s.pos

theorem endok_step (T : Nat → Bool) (hT : ∀ st, T st = true → finished st = true) (s : St) (e : Ev)
    (h : EndOK T s) : EndOK T (step T s e) := by
  cases he : s.ended with
  | true => rw [step_of_ended T s e he (hT _ (h he).1)]; exact h
  | false =>
    -- `ended` stays false, except at the check that has just tested what `EndOK` asks for
    have stays : ∀ s' : St, s'.ended = s.ended → EndOK T s' := fun s' h1 h2 => by rw [h1, he] at h2; cases h2
    cases e with
    | check =>
      simp only [step]
      split
      · exact h
      · split
        · rename_i h2; exact fun _ => by simpa using h2
        · exact stays _ rfl
    | _ => exact stays _ (by simp only [step, apply_ite St.ended, ite_self])

theorem endok_run (T : Nat → Bool) (hT : ∀ st, T st = true → finished st = true) (start : Nat) (evs : List Ev) :
    EndOK T (run T (init start) evs) :=
  List.foldlRecOn evs (step T) (fun h => by cases h) fun s h e _ => endok_step T hT s e h

end Receptor.Results

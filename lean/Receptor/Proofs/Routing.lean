import Receptor.Model.Routing
/-!
# `updateRoutingTable` computes least costs and next hops on least-cost paths

`Inv` holds in every state the worklist loop reaches, whatever the order of pops (`inv_reach`); while the edges of a popped
node are relaxed one by one it holds of the state with that node counted as still queued.  With an empty queue it makes the
labels distances (`Inv.isDist`, `Inv.unreachable`) and the `prev` chain tight (`Inv.chain_eq`); the next-hop theorems are
inductions on the fuel over that one-step fact.
-/
namespace Receptor.Routing

variable {g : Graph} {src u v x : Node} {c cu cx w : Nat} {s : St}

@[simp] theorem improve_cost_self : (improve s u v c).cost v = some c := by simp [improve]
@[simp] theorem improve_cost_ne (h : x ≠ v) : (improve s u v c).cost x = s.cost x := by simp [improve, h]
@[simp] theorem improve_prev_self : (improve s u v c).prev v = some u := by simp [improve]
@[simp] theorem improve_prev_ne (h : x ≠ v) : (improve s u v c).prev x = s.prev x := by simp [improve, h]
@[simp] theorem mem_improve_queue : x ∈ (improve s u v c).queue ↔ x = v ∨ x ∈ s.queue := by
  simp only [improve]; split <;> simp_all [or_comm]

/-- labels only fall: a bound on the label of `x` survives an improvement of `v` -/
theorem improve_cost_le {b : Nat} (hb : ∀ cv, s.cost v = some cv → c < cv) (hx : ∃ cx, s.cost x = some cx ∧ cx ≤ b) :
    ∃ cx, (improve s u v c).cost x = some cx ∧ cx ≤ b := by
  obtain ⟨cx, hx, hle⟩ := hx
  by_cases hxv : x = v
  · subst hxv; exact ⟨c, improve_cost_self, by have := hb cx hx; omega⟩
  · exact ⟨cx, by rw [improve_cost_ne hxv]; exact hx, hle⟩

theorem better_iff : better s v c = true ↔ ∀ cv, s.cost v = some cv → c < cv := by
  unfold better; split <;> simp_all

theorem relaxEdge_cases (g : Graph) (u : Node) (cu : Nat) (s : St) (e : Node × Nat) :
    relaxEdge g u cu s e = s ∧ (g.isKey e.1 = true → ∃ cv, s.cost e.1 = some cv ∧ cv ≤ cu + e.2) ∨
    relaxEdge g u cu s e = improve s u e.1 (cu + e.2) ∧ g.isKey e.1 = true ∧
      ∀ cv, s.cost e.1 = some cv → cu + e.2 < cv := by
  unfold relaxEdge
  by_cases hk : g.isKey e.1 = true
  · by_cases hb : better s e.1 (cu + e.2) = true
    · exact .inr ⟨by rw [hk, hb]; rfl, hk, better_iff.mp hb⟩
    · exact .inl ⟨by rw [hk, eq_false_of_ne_true hb]; rfl, fun _ => by simpa [better_iff] using hb⟩
  · exact .inl ⟨by rw [eq_false_of_ne_true hk]; rfl, fun h => absurd h hk⟩

theorem relaxEdge_cost_le {b : Nat} {e : Node × Nat} (hx : ∃ cx, s.cost x = some cx ∧ cx ≤ b) :
    ∃ cx, (relaxEdge g u cu s e).cost x = some cx ∧ cx ≤ b := by
  rcases relaxEdge_cases g u cu s e with ⟨h, _⟩ | ⟨h, _, hb⟩
  · rw [h]; exact hx
  · rw [h]; exact improve_cost_le hb hx

/-- right after its turn the target of an edge has a label of at most `cu + w`, and labels only fall -/
theorem fold_relaxed (hk : g.isKey v = true) {es : List (Node × Nat)} (h : (v, w) ∈ es) :
    ∃ cv, (es.foldl (relaxEdge g u cu) s).cost v = some cv ∧ cv ≤ cu + w := by
  induction es generalizing s with
  | nil => cases h
  | cons e es ih =>
    rcases List.mem_cons.mp h with h | h
    · subst h
      refine List.foldlRecOn es _ (motive := fun t : St => ∃ cv, t.cost v = some cv ∧ cv ≤ cu + w) ?_
        fun _ ht _ _ => relaxEdge_cost_le ht
      rcases relaxEdge_cases g u cu s (v, w) with ⟨h, hle⟩ | ⟨h, _, _⟩
      · rw [h]; exact hle hk
      · rw [h]; exact ⟨_, improve_cost_self, Nat.le_refl _⟩
    · exact ih h

structure Inv (g : Graph) (src : Node) (s : St) : Prop where
  src0 : s.cost src = some 0
  sound : ∀ v c, s.cost v = some c → Path g src v c
  chain : ∀ v c, v ≠ src → s.cost v = some c →
            ∃ p w cp, s.prev v = some p ∧ (v, w) ∈ g.adj p ∧ s.cost p = some cp ∧ cp + w ≤ c
  relaxed : ∀ x cx, x ∉ s.queue → s.cost x = some cx →
            ∀ v w, (v, w) ∈ g.adj x → g.isKey v = true → ∃ cv, s.cost v = some cv ∧ cv ≤ cx + w

namespace Inv

theorem queue_mono {q : List Node} (hi : Inv g src s) (hq : ∀ x ∈ s.queue, x ∈ q) :
    Inv g src { s with queue := q } :=
  ⟨hi.src0, hi.sound, hi.chain, fun x cx hx => hi.relaxed x cx fun h => hx (hq x h)⟩

theorem dequeue (hi : Inv g src { s with queue := u :: s.queue })
    (hu : ∀ cu, s.cost u = some cu → ∀ v w, (v, w) ∈ g.adj u → g.isKey v = true →
      ∃ cv, s.cost v = some cv ∧ cv ≤ cu + w) : Inv g src s :=
  ⟨hi.src0, hi.sound, hi.chain, fun x cx hxq hx => by
    by_cases hxu : x = u
    · subst hxu; exact hu cx hx
    · exact hi.relaxed x cx (by simp [hxu, hxq]) hx⟩

theorem improve (hi : Inv g src s) (hu : s.cost u = some cu) (he : (v, w) ∈ g.adj u)
    (hk : g.isKey v = true) (hb : ∀ cv, s.cost v = some cv → cu + w < cv) :
    Inv g src (improve s u v (cu + w)) := by
  have hus : src ≠ v := fun h => by have := hb 0 (h ▸ hi.src0); omega
  have huv : u ≠ v := fun h => by have := hb cu (h ▸ hu); omega
  refine ⟨by rw [improve_cost_ne hus]; exact hi.src0, fun x c hx => ?_, fun x c hxs hx => ?_,
    fun x cx hxq hx v' w' hadj hk' => ?_⟩
  · by_cases hxv : x = v
    · subst hxv; rw [improve_cost_self] at hx; cases hx
      exact (hi.sound u cu hu).snoc he hk
    · rw [improve_cost_ne hxv] at hx; exact hi.sound x c hx
  · by_cases hxv : x = v
    · subst hxv; rw [improve_cost_self] at hx; cases hx
      exact ⟨u, w, cu, improve_prev_self, he, by rw [improve_cost_ne huv]; exact hu, Nat.le_refl _⟩
    · rw [improve_cost_ne hxv] at hx
      obtain ⟨p, w', cp, hp, hadj, hcp, hle⟩ := hi.chain x c hxs hx
      obtain ⟨cp', hcp', hle'⟩ := improve_cost_le (u := u) hb ⟨cp, hcp, Nat.le_refl _⟩
      exact ⟨p, w', cp', by rw [improve_prev_ne hxv]; exact hp, hadj, hcp', by omega⟩
  · -- `x` is not queued, so it is not `v` and kept its label; its neighbours' labels did not rise
    have hxv : x ≠ v := fun h => hxq (mem_improve_queue.mpr (.inl h))
    rw [improve_cost_ne hxv] at hx
    exact improve_cost_le hb (hi.relaxed x cx (fun h => hxq (mem_improve_queue.mpr (.inr h))) hx v' w' hadj hk')

end Inv

/-- while the edges of the popped node `u` are relaxed one by one, the invariant holds with `u` counted as
still queued (its own edges are not all relaxed yet), and `u` keeps its label -/
theorem relaxEdge_inv {e : Node × Nat} (he : e ∈ g.adj u)
    (h : Inv g src { s with queue := u :: s.queue } ∧ s.cost u = some cu) :
    Inv g src { relaxEdge g u cu s e with queue := u :: (relaxEdge g u cu s e).queue } ∧
      (relaxEdge g u cu s e).cost u = some cu := by
  rcases relaxEdge_cases g u cu s e with ⟨h', _⟩ | ⟨h', hk, hb⟩
  · rw [h']; exact h
  · rw [h']
    have huv : u ≠ e.1 := fun heq => by have := hb cu (heq ▸ h.2); omega
    refine ⟨?_, by rw [improve_cost_ne huv]; exact h.2⟩
    -- `improve` computes labels and predecessors without looking at the queue
    exact (h.1.improve h.2 he hk hb).queue_mono fun x hx => by
      simp only [mem_improve_queue, List.mem_cons] at hx ⊢
      rcases hx with hx | hx | hx <;> simp [hx]

theorem inv_popRelax (hi : Inv g src s) : Inv g src (popRelax g s u) := by
  -- popping `u` only erases it from the queue; meanwhile it is counted as queued
  have h0 : Inv g src { s with queue := u :: s.queue.erase u } := hi.queue_mono fun x hx => by
    by_cases hxu : x = u
    · simp [hxu]
    · exact List.mem_cons_of_mem _ ((List.mem_erase_of_ne hxu).mpr hx)
  unfold popRelax
  cases hcu : s.cost u with
  | none => exact h0.dequeue fun cu h => by rw [hcu] at h; cases h
  | some cu =>
    have ⟨hi', hcu'⟩ := List.foldlRecOn (g.adj u) (relaxEdge g u cu) (b := { s with queue := s.queue.erase u })
      (motive := fun t => Inv g src { t with queue := u :: t.queue } ∧ t.cost u = some cu)
      ⟨h0, hcu⟩ fun t ht e he => relaxEdge_inv he ht
    exact hi'.dequeue fun cx hx v w hadj hk => by
      rw [hcu'] at hx; cases hx
      exact fold_relaxed hk hadj

theorem inv_reach {init : St} (h0 : Inv g src init) (hr : Reach g init s) : Inv g src s := by
  induction hr with
  | base => exact h0
  | step _ _ ih => exact inv_popRelax ih

theorem initSt_cost {keys : List Node} : (initSt src keys).cost v = some c ↔ v = src ∧ c = 0 := by
  simp only [initSt]; split
  · next h => exact ⟨fun e => ⟨h, (Option.some.inj e).symm⟩, fun e => e.2 ▸ rfl⟩
  · next h => exact ⟨nofun, fun e => absurd e.1 h⟩

theorem inv_init (g : Graph) (src : Node) (keys : List Node) : Inv g src (initSt src keys) := by
  refine ⟨initSt_cost.2 ⟨rfl, rfl⟩, fun v c h => ?_, fun v c hv h => absurd (initSt_cost.1 h).1 hv,
    fun x cx hxq hx => ?_⟩
  · obtain ⟨rfl, rfl⟩ := initSt_cost.1 h; exact .nil
  · obtain ⟨rfl, rfl⟩ := initSt_cost.1 hx; simp [initSt] at hxq

/-- the least walk weight -/
def IsDist (g : Graph) (a b : Node) (c : Nat) : Prop := Path g a b c ∧ ∀ W, Path g a b W → c ≤ W

/-- positive edge weights -/
def Positive (g : Graph) : Prop := ∀ u v w, (v, w) ∈ g.adj u → 0 < w

theorem path_trans {a b c : Node} {W1 W2 : Nat}
    (h1 : Path g a b W1) (h2 : Path g b c W2) : Path g a c (W1 + W2) := by
  induction h2 with
  | nil => exact h1
  | snoc _ hadj hk ih => exact Nat.add_assoc .. ▸ ih.snoc hadj hk

theorem Path.isKey {a : Node} {W : Nat} (hp : Path g a v W) (hv : v ≠ a) : g.isKey v = true := by
  cases hp with
  | nil => exact absurd rfl hv
  | snoc _ _ hk => exact hk

namespace Inv
variable (hi : Inv g src s) (hq : s.queue = [])
include hi hq

/-- every walk is matched by a label: all edges are relaxed -/
theorem le_of_path {W : Nat} (hp : Path g src v W) : ∃ c, s.cost v = some c ∧ c ≤ W := by
  induction hp with
  | nil => exact ⟨0, hi.src0, Nat.le_refl _⟩
  | snoc _ hadj hk ih =>
    obtain ⟨cu, hcu, hle⟩ := ih
    obtain ⟨cv, hcv, hle'⟩ := hi.relaxed _ cu (by simp [hq]) hcu _ _ hadj hk
    exact ⟨cv, hcv, by omega⟩

theorem isDist (hc : s.cost v = some c) : IsDist g src v c :=
  ⟨hi.sound v c hc, fun W hp => by
    obtain ⟨c', hc', hle⟩ := hi.le_of_path hq hp
    rw [hc] at hc'; cases hc'; exact hle⟩

theorem unreachable (hc : s.cost v = none) (W : Nat) : ¬ Path g src v W := fun hp => by
  obtain ⟨c', hc', _⟩ := hi.le_of_path hq hp
  rw [hc] at hc'; cases hc'

theorem chain_eq (hv : v ≠ src) (hc : s.cost v = some c) :
    ∃ p w cp, s.prev v = some p ∧ (v, w) ∈ g.adj p ∧ s.cost p = some cp ∧ cp + w = c := by
  obtain ⟨p, w, cp, hp, hadj, hcp, hle⟩ := hi.chain v c hv hc
  obtain ⟨cv, hcv, hle'⟩ := hi.relaxed p cp (by simp [hq]) hcp v w hadj ((hi.sound v c hc).isKey hv)
  rw [hc] at hcv; cases hcv
  exact ⟨p, w, cp, hp, hadj, hcp, by omega⟩

end Inv

theorem nextHop_succ {p q : Node} (fuel : Nat) (hp : s.prev p = some q) :
    nextHop s src (fuel + 1) p = if q = src then some p else nextHop s src fuel q := by
  simp only [nextHop, hp]

theorem nextHop_spec (hi : Inv g src s) (hq : s.queue = []) (fuel : Nat) : ∀ d h c,
    nextHop s src fuel d = some h → s.cost d = some c → d ≠ src →
    ∃ w0 R, (h, w0) ∈ g.adj src ∧ s.cost h = some w0 ∧ Path g h d R ∧ w0 + R = c := by
  induction fuel with
  | zero => intro d h c hn; cases hn
  | succ fuel ih =>
    intro d h c hn hc hd
    obtain ⟨p, w, cp, hp, hadj, hcp, heq⟩ := hi.chain_eq hq hd hc
    rw [nextHop_succ fuel hp] at hn
    split at hn
    · subst p; cases hn
      rw [hi.src0] at hcp; cases hcp
      exact ⟨w, 0, hadj, by rw [hc, ← heq, Nat.zero_add], Path.nil, by omega⟩
    · rename_i hps
      obtain ⟨w0, R, hadj0, hch, hpath, hsum⟩ := ih p h cp hn hcp hps
      exact ⟨w0, R + w, hadj0, hch, hpath.snoc hadj ((hi.sound d c hc).isKey hd), by omega⟩

/-- with positive weights the walk along `prev` reaches the source: each step lowers the label, so more fuel
than the label suffices -/
theorem nextHop_total (hi : Inv g src s) (hq : s.queue = []) (hpos : Positive g) (fuel : Nat) : ∀ d c,
    s.cost d = some c → d ≠ src → c < fuel → ∃ h, nextHop s src fuel d = some h := by
  induction fuel with
  | zero => intro d c _ _ hlt; cases hlt
  | succ fuel ih =>
    intro d c hc hd hlt
    obtain ⟨p, w, cp, hp, hadj, hcp, heq⟩ := hi.chain_eq hq hd hc
    have := hpos p d w hadj
    rw [nextHop_succ fuel hp]
    split
    · exact ⟨d, rfl⟩
    · rename_i hps
      exact ih p cp hcp hps (by omega)

/-- At termination every label is the least walk weight, and unlabelled nodes are unreachable. -/
theorem lc_correct {g : Graph} {src : Node} {keys : List Node} {s : St}
    (hr : Reach g (initSt src keys) s) (hq : s.queue = []) :
    (∀ v c, s.cost v = some c → Path g src v c ∧ ∀ W, Path g src v W → c ≤ W) ∧
    (∀ v, s.cost v = none → ∀ W, ¬ Path g src v W) :=
  have hi := inv_reach (inv_init g src keys) hr
  ⟨fun _ _ => hi.isDist hq, fun _ => hi.unreachable hq⟩

/-- the hop is on a least-cost path: dist src d = w(src,h) + dist h d -/
theorem nextHop_on_shortest {g : Graph} {src : Node} {keys : List Node} {s : St}
    (hr : Reach g (initSt src keys) s) (hq : s.queue = [])
    (hkeys : ∀ v c, s.cost v = some c → v ≠ src → g.isKey v = true)
    (fuel d h c) (hn : nextHop s src fuel d = some h) (hc : s.cost d = some c) (hd : d ≠ src) :
    ∃ w0 R, (h, w0) ∈ g.adj src ∧ IsDist g src d c ∧ IsDist g h d R ∧ c = w0 + R := by
  have hi := inv_reach (inv_init g src keys) hr
  obtain ⟨w0, R, hadj0, hch, hpath, hsum⟩ := nextHop_spec hi hq fuel d h c hn hc hd
  have hdist := hi.isDist hq hc
  refine ⟨w0, R, hadj0, hdist, ⟨hpath, fun W hW => ?_⟩, hsum.symm⟩
  -- a walk `h ⇝ d` of weight `W` extends the walk `src ⇝ h` behind the label `w0`
  have := hdist.2 _ (path_trans (hi.sound h w0 hch) hW)
  omega

theorem reach_trans {a b c : St} (h1 : Reach g a b) (h2 : Reach g b c) : Reach g a c := by
  induction h2 with
  | base => exact h1
  | step _ hm ih => exact ih.step hm

theorem runFifo_reach (g : Graph) : ∀ (f : Nat) (s s' : St), runFifo g f s = some s' → Reach g s s' ∧ s'.queue = [] := by
  intro f s s' h
  -- the branches of `runFifo`: out of fuel with the queue empty or not, then with fuel left
  fun_induction runFifo g f s with
  | case1 s hq => cases h; exact ⟨.base, hq⟩
  | case2 s hq => cases h
  | case3 f s hq => cases h; exact ⟨.base, hq⟩
  | case4 f s u rest hq ih =>
    -- the pop of the head comes first, while `Reach.step` adds a pop at the end
    have ⟨hr, he⟩ := ih h
    exact ⟨reach_trans (.step .base (hq ▸ List.mem_cons_self)) hr, he⟩

/-- unlabelled nodes have no `prev` pointer (`Inv` speaks of the labelled ones only) -/
def PrevCost (s : St) : Prop := ∀ v p, s.prev v = some p → ∃ c, s.cost v = some c

theorem prevCost_popRelax (h : PrevCost s) : PrevCost (popRelax g s u) := by
  unfold popRelax
  split
  · exact h
  · refine List.foldlRecOn _ _ (motive := PrevCost) h fun t ht e _ => ?_
    rcases relaxEdge_cases g u _ t e with ⟨h', _⟩ | ⟨h', _⟩
    · rw [h']; exact ht
    · rw [h']
      intro x p hx
      by_cases hxv : x = e.1
      · subst hxv; exact ⟨_, improve_cost_self⟩
      · rw [improve_prev_ne hxv] at hx
        rw [improve_cost_ne hxv]
        exact ht x p hx

theorem prevCost_reach {src : Node} {keys : List Node} (hr : Reach g (initSt src keys) s) : PrevCost s := by
  induction hr with
  | base => intro v p h; cases h
  | step _ _ ih => exact prevCost_popRelax ih

/-- an unlabelled node gets no table entry: the prev-chain walk stops at once -/
theorem nextHop_none_of_unlabelled (hp : PrevCost s) (src d : Node) (hd : s.cost d = none) :
    ∀ fuel, nextHop s src fuel d = none
  | 0 => rfl
  | n + 1 => by
    cases hpd : s.prev d with
    | none => simp only [nextHop, hpd]
    | some p =>
      obtain ⟨c, hc⟩ := hp d p hpd
      rw [hd] at hc; cases hc

end Receptor.Routing

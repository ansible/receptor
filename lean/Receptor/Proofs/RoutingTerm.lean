import Receptor.Proofs.Routing
/-!
# Termination of the label-correcting loop of `updateRoutingTable`

For every graph whose key nodes are finitely many and every order in which queued nodes are popped,
the loop stops: the relation "one pop" is well-founded.  Measure, lexicographically: the number of
key nodes without a label, the sum of the labels, the length of the queue.  (Weights are natural
numbers — zero weights and cycles included; negative weights are what the repaired guard of C07
keeps out.)
-/
namespace Receptor.Routing

section
variable {α : Type} {f f' : α → Nat} (hle : ∀ x, f' x ≤ f x)
include hle

theorem sum_map_le : ∀ ks : List α, (ks.map f').sum ≤ (ks.map f).sum
  | [] => Nat.le_refl _
  | k :: ks => by
    simp only [List.map_cons, List.sum_cons]
    have := hle k
    have := sum_map_le ks
    omega

theorem sum_map_lt {v : α} (hlt : f' v < f v) : ∀ {ks : List α}, v ∈ ks → (ks.map f').sum < (ks.map f).sum
  | k :: ks, h => by
    simp only [List.map_cons, List.sum_cons]
    have := hle k
    have := sum_map_le hle ks
    rcases List.mem_cons.mp h with h | h
    · subst h; omega
    · have := sum_map_lt hlt h
      omega
end

/-- the listed nodes without a label are counted by a sum too, so that `sum_map_lt` serves both components -/
def measure (ks : List Node) (s : St) : Nat × Nat × Nat :=
  ((ks.map fun v => if s.cost v = none then 1 else 0).sum, (ks.map fun v => (s.cost v).getD 0).sum, s.queue.length)

def Smaller (ks : List Node) (s' s : St) : Prop :=
  Prod.Lex Nat.lt (Prod.Lex Nat.lt Nat.lt) (measure ks s') (measure ks s)

theorem smaller_wf (ks : List Node) : WellFounded (Smaller ks) :=
  InvImage.wf (measure ks) (Prod.lex Nat.lt_wfRel (Prod.lex Nat.lt_wfRel Nat.lt_wfRel)).wf

/-- a better label for a listed node: one label more, or the same labelled nodes and a smaller sum -/
theorem smaller_improve {ks : List Node} {s : St} {v : Node} {c : Nat} (u : Node) (hv : v ∈ ks)
    (hb : ∀ cv, s.cost v = some cv → c < cv) : Smaller ks (improve s u v c) s := by
  cases hc : s.cost v with
  | none =>
    refine .left _ _ (sum_map_lt (fun x => ?_) (v := v) (by simp [hc]) hv)
    by_cases hxv : x = v
    · simp [hxv]
    · simp [hxv]
  | some cv =>
    have hlt := hb cv hc
    have h1 : ∀ x, ((improve s u v c).cost x = none) = (s.cost x = none) := fun x => by
      by_cases hxv : x = v
      · simp [hxv, hc]
      · simp [hxv]
    refine (Prod.lex_def.mpr (.inr ⟨by simp only [measure, h1], .left _ _ (sum_map_lt (fun x => ?_) (v := v) ?_ hv)⟩))
    · by_cases hxv : x = v
      · simp [hxv, hc]; omega
      · simp [hxv]
    · simpa [hc] using hlt

/-- one pop is a chain of steps that each make the measure smaller: the popped node leaves the queue (labels
untouched), then every edge that is relaxed with effect improves the label of a key node -/
theorem popRelax_smaller (g : Graph) (ks : List Node) (hks : ∀ v, g.isKey v = true → v ∈ ks) (s : St) (u : Node)
    (hu : u ∈ s.queue) : Relation.TransGen (Smaller ks) (popRelax g s u) s := by
  have h1 : Smaller ks { s with queue := s.queue.erase u } s := by
    refine .right _ (.right _ ?_)
    have := List.length_pos_of_mem hu
    simp only [List.length_erase_of_mem hu]
    exact Nat.sub_one_lt (by omega)
  unfold popRelax
  split
  · exact .single h1
  · refine List.foldlRecOn _ _ (motive := fun t => Relation.TransGen (Smaller ks) t s) (.single h1) fun t ht e _ => ?_
    rcases relaxEdge_cases g u _ t e with ⟨h, _⟩ | ⟨h, hk, hb⟩
    · rw [h]; exact ht
    · rw [h]; exact .trans (.single (smaller_improve u (hks _ hk) hb)) ht

/-- **lc_terminates.** For every graph with finitely many key nodes (listed in `ks`) the relation "`s'` is `s` after
popping some queued node" is well-founded: whatever the order of pops, the loop of `updateRoutingTable` stops. -/
theorem lc_terminates (g : Graph) (ks : List Node) (hks : ∀ v, g.isKey v = true → v ∈ ks) :
    WellFounded (fun s' s : St => ∃ u, u ∈ s.queue ∧ s' = popRelax g s u) := by
  apply Subrelation.wf _ (smaller_wf ks).transGen
  intro s' s ⟨u, hu, he⟩
  exact he ▸ popRelax_smaller g ks hks s u hu

end Receptor.Routing

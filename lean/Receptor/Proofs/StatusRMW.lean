import Receptor.Model.StatusRMW
/-!
Two invariants of the status-file protocol, each kept by every micro-step: `Inv` (the lock holder's program counter
says what is in the file) and `Acct` (every thread's writes are in the log, in program order).  A step of `t` replaces
`t`'s record and nothing else in `th`; `Inv.of_holder` and `acc_frame` say what is left to show about the new record,
and the two step theorems go through the program counter of the thread that moves.
-/
namespace Receptor.StatusRMW

variable {α : Type}

theorem run_inv {P : St α → Prop} (hstep : ∀ s s' t, P s → step s t = some s' → P s') :
    ∀ (sched : List Nat) (s : St α), P s → P (run s sched)
  | [], _, h => h
  | t :: rest, s, h => by
    rw [run]
    cases hs : step s t with
    | none => exact run_inv hstep rest s h
    | some s' => exact run_inv hstep rest s' (hstep s s' t h hs)

theorem step_eq_some {s s' : St α} {t : Nat} (hs : step s t = some s') :
    ∃ op rest done pc mem, s.th[t]? = some ⟨op :: rest, done, pc, mem⟩ := by
  unfold step at hs
  cases hx : s.th[t]? with
  | none => simp [hx] at hs
  | some x =>
    obtain ⟨_ | ⟨op, rest⟩, done, pc, mem⟩ := x
    · simp [hx] at hs
    · exact ⟨_, _, _, _, _, rfl⟩

theorem init_th {r0 : α} {progs : List (List (Op α))} {t : Nat} {x : Th α} (h : (init r0 progs).th[t]? = some x) :
    ∃ p, progs[t]? = some p ∧ ⟨p, [], .idle, r0⟩ = x := by
  simpa [init] using h

theorem set_cases {l : List (Th α)} {t t' : Nat} {y x' : Th α} (h : (l.set t y)[t']? = some x') :
    t' = t ∧ x' = y ∨ t' ≠ t ∧ l[t']? = some x' := by
  rw [List.getElem?_set] at h
  split at h
  · rename_i htt
    exact .inl ⟨htt.symm, (Option.some.inj (Option.ite_none_right_eq_some.mp h).2).symm⟩
  · rename_i htt
    exact .inr ⟨Ne.symm htt, h⟩

theorem applyAll_snoc (fs : List (α → α)) (f : α → α) (r : α) : applyAll (fs ++ [f]) r = f (applyAll fs r) := by
  simp [applyAll, List.foldl_append]

theorem fns_snoc (s : St α) (t : Nat) (f : α → α) (s' : St α) (h : s'.log = s.log ++ [(t, f)]) : s'.fns = s.fns ++ [f] := by
  simp [St.fns, h]

def Pc.isIdle : Pc α → Prop
  | .idle => True
  | _ => False

/-- what the lock holder's program counter says about the file -/
def HeldOK (r0 : α) (s : St α) (x : Th α) : Prop :=
  x.ops ≠ [] ∧
  match x.pc with
  | .idle => False
  | .acqU f => ∃ pre, s.fns = pre ++ [f] ∧ s.file = some (applyAll pre r0)
  | .modified v => v = applyAll s.fns r0 ∧ s.file.isSome
  | .truncated v => v = applyAll s.fns r0 ∧ s.file = none
  | .written => s.file = some (applyAll s.fns r0)
  | .acqL => s.file = some (applyAll s.fns r0)

structure Inv (r0 : α) (s : St α) : Prop where
  others : ∀ t x, s.th[t]? = some x → s.owner ≠ some t → x.pc.isIdle
  free : s.owner = none → s.file = some (applyAll s.fns r0)
  held : ∀ t, s.owner = some t → ∃ x, s.th[t]? = some x ∧ HeldOK r0 s x
  reads : ∀ r ∈ s.reads, ∃ k, k ≤ s.fns.length ∧ r = some (applyAll (s.fns.take k) r0)

theorem inv_init (r0 : α) (progs : List (List (Op α))) : Inv r0 (init r0 progs) := by
  refine ⟨fun t x hx _ => ?_, fun _ => rfl, fun t => nofun, fun r => nofun⟩
  obtain ⟨p, _, rfl⟩ := init_th hx
  trivial

theorem Inv.holder {r0 : α} {s : St α} {t : Nat} {x : Th α} (hi : Inv r0 s) (hx : s.th[t]? = some x)
    (hni : ¬ x.pc.isIdle) : s.owner = some t ∧ HeldOK r0 s x := by
  have hown : s.owner = some t := Classical.byContradiction fun hne => hni (hi.others t x hx hne)
  obtain ⟨x0, hx0, hh⟩ := hi.held t hown
  rw [hx] at hx0; cases hx0
  exact ⟨hown, hh⟩

/-- the state after a step of `t` that leaves `t` holding the lock: only `t`'s record changed, the lock was
free or `t`'s before, and the new record describes the new file -/
theorem Inv.of_holder {r0 : α} {s s' : St α} {t : Nat} {x y : Th α} (hi : Inv r0 s) (hx : s.th[t]? = some x)
    (hth : s'.th = s.th.set t y) (hown : s'.owner = some t) (hprev : s.owner = none ∨ s.owner = some t)
    (hok : HeldOK r0 s' y)
    (hreads : ∀ r ∈ s'.reads, ∃ k, k ≤ s'.fns.length ∧ r = some (applyAll (s'.fns.take k) r0)) : Inv r0 s' := by
  refine ⟨fun t' x' hx' hne => ?_, fun h => (by rw [hown] at h; cases h), fun t' ht' => ?_, hreads⟩
  · rcases set_cases (hth ▸ hx') with ⟨rfl, _⟩ | ⟨htt, hx'⟩
    · exact absurd hown hne
    · refine hi.others t' x' hx' ?_
      rcases hprev with h | h <;> rw [h]
      · exact fun h => nomatch h
      · exact fun h => htt (Option.some.inj h).symm
  · rw [hown] at ht'; cases ht'
    exact ⟨y, by rw [hth, List.getElem?_set_self (List.getElem?_eq_some_iff.mp hx).1], hok⟩

/-- what earlier loads saw stays a prefix state when a write operation is appended to the log -/
theorem Inv.reads_snoc {r0 : α} {s s' : St α} {t : Nat} {f : α → α} (hi : Inv r0 s) (hlog : s'.log = s.log ++ [(t, f)])
    (hr : s'.reads = s.reads) : ∀ r ∈ s'.reads, ∃ k, k ≤ s'.fns.length ∧ r = some (applyAll (s'.fns.take k) r0) := by
  intro r hr'
  obtain ⟨k, hk, hrk⟩ := hi.reads r (hr ▸ hr')
  rw [fns_snoc s t f s' hlog]
  exact ⟨k, by rw [List.length_append]; omega, by rw [List.take_append_of_le_length hk]; exact hrk⟩

theorem inv_step (r0 : α) (s s' : St α) (t : Nat) (hi : Inv r0 s) (hs : step s t = some s') : Inv r0 s' := by
  obtain ⟨op, rest, done, pc, mem, hx⟩ := step_eq_some hs
  have hne : op :: rest ≠ [] := List.cons_ne_nil _ _
  simp only [step, hx] at hs
  cases pc with
  | idle =>
    -- the three acquiring steps: the lock was free, so the file held every write logged so far
    cases op with
    | update f =>
      simp only [Option.ite_none_right_eq_some] at hs
      obtain ⟨hfree, ⟨⟩⟩ := hs
      exact hi.of_holder hx rfl rfl (.inl hfree) ⟨hne, s.fns, fns_snoc s t f _ rfl, hi.free hfree⟩ (hi.reads_snoc rfl rfl)
    | save v =>
      simp only [Option.ite_none_right_eq_some] at hs
      obtain ⟨hfree, ⟨⟩⟩ := hs
      refine hi.of_holder hx rfl rfl (.inl hfree) ⟨hne, ?_, ?_⟩ (hi.reads_snoc rfl rfl)
      · rw [fns_snoc s t _ _ rfl, applyAll_snoc]
      · show s.file.isSome = true
        rw [hi.free hfree]; rfl
    | load =>
      simp only [Option.ite_none_right_eq_some] at hs
      obtain ⟨hfree, ⟨⟩⟩ := hs
      exact hi.of_holder hx rfl rfl (.inl hfree) ⟨hne, hi.free hfree⟩ hi.reads
  | acqU f =>
    obtain ⟨hown, _, pre, hlog, hfile⟩ := hi.holder hx id
    simp only at hs; cases hs
    refine hi.of_holder hx rfl hown (.inr hown) ⟨hne, ?_⟩ hi.reads
    show _ = applyAll s.fns r0 ∧ s.file.isSome = true
    rw [hfile, hlog, applyAll_snoc]
    exact ⟨rfl, rfl⟩
  | modified v =>
    obtain ⟨hown, _, hv, _⟩ := hi.holder hx id
    simp only at hs; cases hs
    exact hi.of_holder hx rfl hown (.inr hown) ⟨hne, hv, rfl⟩ hi.reads
  | truncated v =>
    obtain ⟨hown, _, hv, _⟩ := hi.holder hx id
    simp only at hs; cases hs
    exact hi.of_holder hx rfl hown (.inr hown) ⟨hne, congrArg some hv⟩ hi.reads
  | acqL =>
    obtain ⟨hown, _, hh⟩ := hi.holder hx id
    simp only at hs; cases hs
    refine hi.of_holder hx rfl hown (.inr hown) ⟨hne, hh⟩ fun r hr => ?_
    rcases List.mem_append.mp hr with h | h
    · exact hi.reads r h
    · refine ⟨s.fns.length, Nat.le_refl _, ?_⟩
      show r = some (applyAll (s.fns.take s.fns.length) r0)
      rw [List.mem_singleton.mp h, List.take_length]; exact hh
  | written =>
    -- the release: the file holds every write logged, and `t` is idle again
    obtain ⟨hown, _, hh⟩ := hi.holder hx id
    simp only at hs; cases hs
    refine ⟨fun t' x' hx' _ => ?_, fun _ => hh, fun t' => nofun, hi.reads⟩
    rcases set_cases hx' with ⟨_, rfl⟩ | ⟨htt, hx'⟩
    · trivial
    · exact hi.others t' x' hx' (by rw [hown]; exact fun h => htt (Option.some.inj h).symm)

/-- accounting: every thread's writes appear in the log, in program order -/
structure Acct (progs : List (List (Op α))) (s : St α) : Prop where
  hist : ∀ (t : Nat) (x : Th α), s.th[t]? = some x → progs[t]? = some (x.done ++ x.ops)
  mine : ∀ (t : Nat) (x : Th α), s.th[t]? = some x → s.fnsOf t = opFns (x.done ++ x.cur)

theorem acc_init (r0 : α) (progs : List (List (Op α))) : Acct progs (init r0 progs) := by
  refine ⟨fun t x hx => ?_, fun t x hx => ?_⟩ <;> obtain ⟨p, hp, rfl⟩ := init_th hx
  · exact hp
  · rfl

theorem fnsOfLog_append (log : List (Nat × (α → α))) (t t' : Nat) (fs : List (α → α)) :
    fnsOfLog (log ++ fs.map (t, ·)) t' = fnsOfLog log t' ++ (if t = t' then fs else []) := by
  by_cases h : t = t' <;> simp [fnsOfLog, List.filter_append, List.filter_map, Function.comp_def, h]

theorem opFns_append (a b : List (Op α)) : opFns (a ++ b) = opFns a ++ opFns b := by
  simp [opFns, List.filterMap_append]

/-- a step of `t` that appends the functions `fs` (none, or that of the operation started) to the log under `t`'s
name, keeps `done ++ ops` of `t` and extends `done ++ cur` by the operations of `fs` -/
theorem acc_frame {progs : List (List (Op α))} {s s' : St α} {t : Nat} {x y : Th α} (ha : Acct progs s)
    (hx : s.th[t]? = some x) (fs : List (α → α)) (hth : s'.th = s.th.set t y)
    (hlog : s'.log = s.log ++ fs.map (t, ·)) (h1 : y.done ++ y.ops = x.done ++ x.ops)
    (h2 : opFns (y.done ++ y.cur) = opFns (x.done ++ x.cur) ++ fs) : Acct progs s' := by
  refine ⟨fun t' x' hx' => ?_, fun t' x' hx' => ?_⟩
  · rcases set_cases (hth ▸ hx') with ⟨rfl, rfl⟩ | ⟨_, hx'⟩
    · rw [h1]; exact ha.hist _ x hx
    · exact ha.hist t' x' hx'
  · rw [St.fnsOf, hlog, fnsOfLog_append]
    rcases set_cases (hth ▸ hx') with ⟨rfl, rfl⟩ | ⟨htt, hx'⟩
    · rw [h2, if_pos rfl]; exact congrArg (· ++ fs) (ha.mine _ x hx)
    · rw [if_neg (Ne.symm htt), List.append_nil]; exact ha.mine t' x' hx'

theorem acc_step (progs : List (List (Op α))) (s s' : St α) (t : Nat) (ha : Acct progs s) (hs : step s t = some s') : Acct progs s' := by
  obtain ⟨op, rest, done, pc, mem, hx⟩ := step_eq_some hs
  simp only [step, hx] at hs
  cases pc with
  | idle =>
    -- taking the lock: an update and a save log their function, and the operation becomes `cur`
    cases op with
    | update f =>
      simp only [Option.ite_none_right_eq_some] at hs
      obtain ⟨_, ⟨⟩⟩ := hs
      exact acc_frame ha hx [f] rfl rfl rfl (by simp [Th.cur, opFns, Op.fn])
    | save v =>
      simp only [Option.ite_none_right_eq_some] at hs
      obtain ⟨_, ⟨⟩⟩ := hs
      exact acc_frame ha hx [fun _ => v] rfl rfl rfl (by simp [Th.cur, opFns, Op.fn])
    | load =>
      simp only [Option.ite_none_right_eq_some] at hs
      obtain ⟨_, ⟨⟩⟩ := hs
      exact acc_frame ha hx [] rfl (List.append_nil _).symm rfl (by simp [Th.cur, opFns, Op.fn])
  | written =>
    -- the release moves the operation from `cur` to `done`
    simp only at hs; cases hs
    exact acc_frame ha hx [] rfl (List.append_nil _).symm (List.append_assoc ..) (by simp [Th.cur])
  | _ =>
    -- inside an operation the log is left alone
    simp only at hs; cases hs
    exact acc_frame ha hx [] rfl (List.append_nil _).symm rfl (List.append_nil _).symm

end Receptor.StatusRMW

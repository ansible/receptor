import Receptor.Model.StreamEnd
/-! A read only re-cuts the script of a faithful stream: what it returns, followed by what it leaves, is again a faithful
stream of the same bytes (`readK_delivers`).  With `delivers_cons` that is all the end points and `readMany` need. -/
namespace Receptor.StreamEnd
open Receptor.Bridge

theorem delivers_eofOnly : Delivers eofOnly [] :=
  ⟨rfl, rfl, fun r hr => by rw [List.mem_singleton.1 hr]; exact .inr rfl⟩

theorem delivers_cons {c : ReadRes} {rest : List ReadRes} {w : Bytes} (h : Delivers (c :: rest) w) :
    (c.err = true → w = c.data) ∧
    (c.err = false → c.data ≠ [] ∧ ∃ w', w = c.data ++ w' ∧ Delivers rest w') := by
  obtain ⟨h1, h2, h3⟩ := h
  obtain ⟨hc, hrest⟩ := List.forall_mem_cons.1 h3
  constructor
  · intro he
    simp only [upToFirstErr, he, if_true] at h1
    exact h1.symm
  · intro he
    simp only [upToFirstErr, hasErr, List.any_cons, he, Bool.false_eq_true, if_false, Bool.false_or] at h1 h2
    exact ⟨hc.resolve_right (by simp [he]), _, h1.symm, rfl, h2, hrest⟩

theorem readK_delivers (k : Nat) (hk : 1 ≤ k) {rs : List ReadRes} {w : Bytes} (h : Delivers rs w) :
    ∃ r rest, readK k rs = some (r, rest) ∧ r.data.length ≤ k ∧ (r.err = true → rest = eofOnly)
      ∧ Delivers (r :: rest) w := by
  obtain ⟨h1, h2, h3⟩ := h
  cases rs with
  | nil => cases h2
  | cons c rest0 =>
    obtain ⟨hc, hrest⟩ := List.forall_mem_cons.1 h3
    unfold readK
    by_cases hl : c.data.length ≤ k
    · refine ⟨c, _, if_pos hl, hl, fun he => if_pos he, ?_⟩
      cases he : c.err with
      | false => exact ⟨h1, h2, h3⟩
      | true =>
        exact ⟨by simpa [upToFirstErr, he] using h1, by simp [hasErr, he],
          List.forall_mem_cons.2 ⟨hc, delivers_eofOnly.2.2⟩⟩
    · have hlt : k < c.data.length := Nat.lt_of_not_le hl
      refine ⟨_, _, if_neg hl, List.length_take_le k _, nofun, ?_, by simpa [hasErr] using h2, ?_⟩
      · rw [← h1]
        cases he : c.err <;> simp [upToFirstErr, he, ← List.append_assoc]
      · -- both pieces of the chunk are non-empty
        exact List.forall_mem_cons.2
          ⟨.inl (List.ne_nil_of_length_pos (List.length_take ▸ Nat.lt_min.2 ⟨hk, Nat.zero_lt_of_lt hlt⟩)),
            List.forall_mem_cons.2 ⟨.inl (mt List.drop_eq_nil_iff.1 hl), hrest⟩⟩

theorem readK_one {a : Nat} {d : Bytes} {rs : List ReadRes} (h : Delivers rs (a :: d)) :
    ∃ e rest, readK 1 rs = some (⟨[a], e⟩, rest) ∧ Delivers rest d := by
  obtain ⟨⟨data, err⟩, rest, hr, hlen, hE, hD⟩ := readK_delivers 1 (Nat.le_refl 1) h
  obtain ⟨hT, hF⟩ := delivers_cons hD
  refine ⟨err, rest, ?_⟩
  cases err with
  | true =>
    cases hT rfl
    cases List.eq_nil_of_length_eq_zero (Nat.eq_zero_of_le_zero (Nat.le_of_succ_le_succ hlen))
    exact ⟨hr, hE rfl ▸ delivers_eofOnly⟩
  | false =>
    obtain ⟨hne, w', hw, hd⟩ := hF rfl
    cases data with
    | nil => exact absurd rfl hne
    | cons x t =>
      cases List.eq_nil_of_length_eq_zero (Nat.eq_zero_of_le_zero (Nat.le_of_succ_le_succ hlen))
      cases hw
      exact ⟨hr, hd⟩

/-- any sequence of reads with buffers of at least one byte returns consecutive slices of the stream;
once a read reports the end, everything has been returned; and `|w| + 1` reads are always enough -/
theorem readMany_slices : ∀ (ks : List Nat) (rs : List ReadRes) (w : Bytes), (∀ k ∈ ks, 1 ≤ k) → Delivers rs w →
    (∃ tail, w = (readMany ks rs).flatMap (·.data) ++ tail) ∧
    (hasErr (readMany ks rs) = true → (readMany ks rs).flatMap (·.data) = w) ∧
    (w.length + 1 ≤ ks.length → hasErr (readMany ks rs) = true) := by
  intro ks
  induction ks with
  | nil => intro rs w _ _; exact ⟨⟨w, rfl⟩, nofun, nofun⟩
  | cons k ks ih =>
    intro rs w hks hd
    obtain ⟨r, rest, hr, _, _, hD⟩ := readK_delivers k (hks k (List.mem_cons_self ..)) hd
    obtain ⟨hT, hF⟩ := delivers_cons hD
    simp only [readMany, hr]
    cases hre : r.err with
    | true => simp [hasErr, hre, hT hre]
    | false =>
      obtain ⟨hne, w', hw, hd'⟩ := hF hre
      obtain ⟨⟨tail, ht⟩, h2, h3⟩ := ih rest w' (fun k' hk' => hks k' (List.mem_cons_of_mem _ hk')) hd'
      simp only [Bool.false_eq_true, if_false, List.flatMap_cons, hasErr, List.any_cons, hre, Bool.false_or, hw,
        List.append_assoc, List.append_cancel_left_eq, List.length_append, List.length_cons] at h2 h3 ⊢
      refine ⟨⟨tail, ht⟩, h2, fun hlen => h3 ?_⟩
      have := List.length_pos_iff.mpr hne
      omega

end Receptor.StreamEnd

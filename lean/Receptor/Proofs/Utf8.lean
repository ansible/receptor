/-!
The bytes of a string, character by character.  The models write byte strings as `s.toUTF8.toList.map (·.toNat)` of
a literal `s`.  The kernel evaluates that through a `ByteArray` built by `push` and read back by a well-founded loop
over `get!`, at a cost that grows faster than the literal's length (a 55-character literal: 0.6M heartbeats).  On
`String.ofList l` the same bytes are a `flatMap` over `l`, which is linear; and a string literal unifies with
`String.ofList _`, so rewriting with `utf8_ofList` (through `Ctl.b_ofList`) turns the long literals of a goal into
that form before the kernel sees them.
-/
namespace Receptor

theorem byteArray_toList_loop (bs : ByteArray) (i : Nat) (r : List UInt8) :
    ByteArray.toList.loop bs i r = r.reverse ++ bs.data.toList.drop i := by
  fun_induction ByteArray.toList.loop bs i r with
  | case1 i r h ih =>
    have hi : i < bs.data.size := h
    rw [ih, List.drop_eq_getElem_cons hi, ByteArray.get!, getElem!_pos bs.data i hi, List.reverse_cons, List.append_assoc]
    rfl
  | case2 i r h => rw [List.drop_eq_nil_of_le (Nat.le_of_not_lt h), List.append_nil]

/-- core has this for the empty array only -/
theorem byteArray_toList (bs : ByteArray) : bs.toList = bs.data.toList := by
  rw [ByteArray.toList, byteArray_toList_loop, List.reverse_nil, List.nil_append, List.drop_zero]

theorem utf8_ofList (l : List Char) :
    (String.ofList l).toUTF8.toList.map (·.toNat) = l.flatMap fun c => (String.utf8EncodeChar c).map (·.toNat) := by
  rw [String.toUTF8, String.toByteArray_ofList, List.utf8Encode, byteArray_toList, List.toList_data_toByteArray, List.map_flatMap]

end Receptor

import Receptor.Model.Wire
namespace Receptor.Wire

/-- the `n` low base-256 digits of `v`, most significant first -/
def beDigits : Nat → Nat → Bytes
  | 0, _ => []
  | n + 1, v => beDigits n (v / 256) ++ [v % 256]

theorem beVal_snoc (l : Bytes) (b : Nat) : beVal (l ++ [b]) = beVal l * 256 + b := by
  simp [beVal, List.foldl_append]

theorem beVal_beDigits : ∀ n v : Nat, beVal (beDigits n v) = v % 256 ^ n
  | 0, v => by simp [beDigits, beVal, Nat.mod_one]
  | n + 1, v => by
    rw [beDigits, beVal_snoc, beVal_beDigits n, Nat.pow_succ', Nat.mod_mul, Nat.mul_comm, Nat.add_comm]

theorem u64BE_eq_beDigits (v : Nat) : u64BE v = beDigits 8 v := by
  simp only [u64BE, beDigits, Nat.div_div_eq_div_mul, Nat.reduceMul, List.nil_append, List.cons_append]

theorem beVal_u64BE (v : Nat) (hv : v < 18446744073709551616) : beVal (u64BE v) = v := by
  rw [u64BE_eq_beDigits, beVal_beDigits]
  exact Nat.mod_eq_of_lt hv

theorem u64BE_length (v : Nat) : (u64BE v).length = 8 := rfl

theorem fixedLen_length (s : Bytes) (l : Nat) : (fixedLen s l).length = l := by
  rw [fixedLen, List.length_append, List.length_take, List.length_replicate, Nat.add_comm, Nat.sub_add_min_cancel]

theorem stripZeros_fixedLen (s : Bytes) (h : svcOK s) : stripZeros (fixedLen s 8) = s := by
  obtain ⟨hl, hz⟩ := h
  rw [List.getLast?_eq_head?_reverse] at hz
  -- reversed, the padding comes first and is all that is dropped: the name's last byte is not NUL
  have : s.reverse.dropWhile (· == 0) = s.reverse := by
    cases hr : s.reverse <;> simp_all
  rw [stripZeros, fixedLen, List.take_of_length_le hl, List.reverse_append, List.reverse_replicate,
    List.dropWhile_append_of_pos (by simp), this, List.reverse_reverse]

theorem drop_add_append {a r : Bytes} {n : Nat} (i : Nat) (h : a.length = n) :
    (a ++ r).drop (i + n) = r.drop i := by
  rw [← h, Nat.add_comm, List.drop_length_add_append]

/-- `decode` on a buffer laid out as a data packet: four header bytes (the second is the hop count), four 8-byte
fields, the payload -/
theorem decode_fields (tbl : Nat → Option Bytes) {k t x y : Nat} {a b c d data : Bytes}
    (ha : a.length = 8) (hb : b.length = 8) (hc : c.length = 8) (hd : d.length = 8) :
    decode stdLayout tbl ([k, t, x, y] ++ a ++ b ++ c ++ d ++ data) =
      match tbl (beVal a) with
      | none => .error .hash
      | some fn =>
        match tbl (beVal b) with
        | none => .error .hash
        | some tn => .ok { fromNode := fn, toNode := tn, fromSvc := stripZeros c, toSvc := stripZeros d,
                           ttl := t, data := data } := by
  have hlen : ¬ ([k, t, x, y] ++ a ++ b ++ c ++ d ++ data).length < stdLayout.minLen := by
    simp only [List.length_cons, List.length_append, List.length_nil, ha, hb, hc, hd, stdLayout]; omega
  rw [decode, if_neg hlen]
  simp only [stdLayout, List.append_assoc, List.cons_append, List.nil_append, List.drop_succ_cons, List.drop_zero,
    drop_add_append _ ha, drop_add_append _ hb, drop_add_append _ hc, drop_add_append _ hd, List.take_left' ha,
    List.take_left' hb, List.take_left' hc, List.take_left' hd]
  rfl

end Receptor.Wire

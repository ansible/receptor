import Receptor.Model.WorkNode
/-! The work-unit state machine over histories (C15, C19).  `step_cases` is the one walk through `step`: a command takes
effect as `applyEffect` says, or nothing changes and nothing but reports is shown.  `From` says where a unit of a history
comes from (the start state, or a submit of the history that respected the secrets rule); `run_units` and `run_shown`
carry it along a history. -/
namespace Receptor.WorkNode
open Receptor.Work

/-- A step is a command that takes effect as `applyEffect` says, or it leaves the node as it was; then the answer is
not "done", and what it shows are redacted reports of units the node holds. -/
theorem step_cases (n : Node) (op : Op) :
    (∃ c, op = .cmd c ∧ dispatch true c.sub (findUnit n c.target).isSome (cfgFor n c) c.conn c.tok n.key = .effect
      ∧ step n op = applyEffect n c)
    ∨ (step n op).1 = n ∧ (step n op).2 ≠ .done ∧ ∀ l, (step n op).2 = .shown l → l ⊆ n.units.map report := by
  cases op with
  | restart => exact .inr ⟨rfl, nofun, nofun⟩
  | cmd c =>
    -- the arms of `step`: effect; refused; not found; information: list, status of a unit found, of one not found
    simp only [step]
    split
    · rename_i h; exact .inl ⟨c, rfl, h, rfl⟩
    · exact .inr ⟨rfl, nofun, nofun⟩
    · exact .inr ⟨rfl, nofun, nofun⟩
    · split
      · exact .inr ⟨rfl, nofun, fun _ hl => Out.shown.inj hl ▸ List.Subset.refl _⟩
      · split
        · rename_i u hf
          have hu : report u ∈ n.units.map report := List.mem_map_of_mem (List.mem_of_find?_eq_some hf)
          exact .inr ⟨rfl, nofun, fun _ hl => Out.shown.inj hl ▸ List.cons_subset.mpr ⟨hu, List.nil_subset _⟩⟩
        · exact .inr ⟨rfl, nofun, nofun⟩

theorem applyEffect_out (n : Node) (c : Cmd) : (applyEffect n c).2 = .done ∨ (applyEffect n c).2 = .refusedSecrets := by
  unfold applyEffect
  cases c.sub with
  | submit =>
    simp only
    split
    · split
      · exact .inr rfl
      · exact .inl rfl
    · exact .inl rfl
  | _ => exact .inl rfl

/-- information commands never change the node -/
theorem step_info (n : Node) (c : Cmd) (h : gated c.sub = false) : (step n (.cmd c)).1 = n := by
  rcases step_cases n (.cmd c) with ⟨_, ⟨⟩, hd, _⟩ | ⟨e, _⟩
  · unfold dispatch at hd
    simp only [h, Bool.not_false, if_true] at hd
    split at hd <;> cases hd
  · exact e

theorem step_shown (n : Node) (op : Op) (l : List (Nat × Params)) (h : (step n op).2 = .shown l) :
    l ⊆ n.units.map report := by
  rcases step_cases n op with ⟨c, _, _, e⟩ | ⟨_, _, hl⟩
  · rw [e] at h
    rcases applyEffect_out n c with e | e <;> rw [e] at h <;> cases h
  · exact hl l h

/-- identity, type, parameters and TLS profile of a unit (what no command changes) -/
def core (u : WUnit) : Nat × TypeCfg × Params × Bytes := (u.id, u.cfg, u.params, u.tls)

theorem params_of_core {u u' : WUnit} (h : core u = core u') : u.params = u'.params := congrArg (·.2.2.1) h

theorem TlsOK.of_core {u u' : WUnit} (h : core u = core u') (hu : TlsOK u) : TlsOK u' := by
  simp only [core, Prod.mk.injEq] at h
  obtain ⟨_, hc, hp, ht⟩ := h
  unfold TlsOK
  rw [← hp, ← ht, ← hc]
  exact hu

/-- where a unit comes from: it is, core for core, one the node `n` held, or it was created by a submit
among `ops` (and then the secrets rule was respected) -/
def From (n : Node) (ops : List Op) (u' : WUnit) : Prop :=
  (∃ u ∈ n.units, core u = core u') ∨ ∃ c, Op.cmd c ∈ ops ∧ c.sub = .submit ∧ u'.params = c.params ∧ TlsOK u'

theorem From.old {n : Node} {ops : List Op} {u : WUnit} (h : u ∈ n.units) : From n ops u := .inl ⟨u, h, rfl⟩

theorem allocateRemote_stored {cf : Bool} {tls : Bytes} {ps ps' : Params} (h : (allocateRemote cf tls ps).1 = .stored ps') :
    ps' = ps ∧ (hasSecrets ps = true → tls ≠ []) := by
  unfold allocateRemote at h
  split at h
  · cases h
  · rename_i hn
    cases h
    exact ⟨rfl, fun hh ht => hn (by simp [hh, ht])⟩

/-- an effect keeps, flags or drops the units held without touching their core, and a submit appends one unit -/
theorem applyEffect_units (n : Node) (c : Cmd) : ∀ u' ∈ (applyEffect n c).1.units, From n [.cmd c] u' := by
  unfold applyEffect
  cases hs : c.sub with
  | submit =>
    have new (htls : c.cfg.isRemote = true → hasSecrets c.params = true → c.tls ≠ []) :
        ∀ u' ∈ n.units ++ [{ id := n.next, cfg := c.cfg, params := c.params, tls := c.tls : WUnit }], From n [.cmd c] u' :=
      List.forall_mem_append.mpr ⟨fun _ => .old,
        List.forall_mem_singleton.mpr (.inr ⟨c, List.mem_singleton.mpr rfl, hs, rfl, htls⟩)⟩
    simp only
    split
    · split
      · exact fun _ => .old
      · rename_i ps hst
        obtain ⟨rfl, htls⟩ := allocateRemote_stored hst
        exact new fun _ => htls
    · rename_i hr; exact new fun h => absurd h hr
  | cancel | results =>
    intro u' hu'
    obtain ⟨u, hu, rfl⟩ := List.mem_map.mp hu'
    refine .inl ⟨u, hu, ?_⟩
    split <;> rfl
  | release | forceRelease => exact fun u' hu' => .old (List.mem_filter.mp hu').1
  | status | list => exact fun _ => .old

theorem step_units (n : Node) (op : Op) : ∀ u' ∈ (step n op).1.units, From n [op] u' := by
  rcases step_cases n op with ⟨c, rfl, _, e⟩ | ⟨e, _⟩ <;> rw [e]
  · exact applyEffect_units n c
  · exact fun _ => .old

theorem From.step {n : Node} {op : Op} {rest : List Op} {u' : WUnit} (h : From (step n op).1 rest u') :
    From n (op :: rest) u' := by
  rcases h with ⟨u1, hu1, hc⟩ | ⟨c, hc, h⟩
  · rcases step_units n op u1 hu1 with ⟨u, hu, hc0⟩ | ⟨c, hop, hs, hp, ht⟩
    · exact .inl ⟨u, hu, hc0.trans hc⟩
    · exact .inr ⟨c, List.mem_singleton.mp hop ▸ List.mem_cons_self .., hs, (params_of_core hc).symm.trans hp, ht.of_core hc⟩
  · exact .inr ⟨c, List.mem_cons_of_mem _ hc, h⟩

theorem run_units : ∀ (ops : List Op) (n : Node), ∀ u' ∈ (run n ops).1.units, From n ops u' := by
  intro ops
  induction ops with
  | nil => exact fun _ _ => .old
  | cons op rest ih => exact fun n u' hu' => (ih _ u' hu').step

/-- whatever a history shows is the redacted report of a unit that comes from the start state or from one of its submits -/
theorem run_shown : ∀ (ops : List Op) (n : Node), ∀ o ∈ (run n ops).2, ∀ l, o = .shown l → ∀ q ∈ l,
    ∃ u', q = report u' ∧ From n ops u' := by
  intro ops
  induction ops with
  | nil => intro n o ho; cases ho
  | cons op rest ih =>
    intro n o ho l hl q hq
    rcases List.mem_cons.mp ho with h1 | h1
    · obtain ⟨u, hu, rfl⟩ := List.mem_map.mp (step_shown n op l (h1.symm.trans hl) hq)
      exact ⟨u, rfl, .old hu⟩
    · obtain ⟨u', hq', hf⟩ := ih _ o h1 l hl q hq
      exact ⟨u', hq', hf.step⟩

end Receptor.WorkNode

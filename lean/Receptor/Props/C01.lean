import Receptor.Proofs.Routing
import Receptor.Proofs.RoutingTerm
import Receptor.Proofs.FloodNet
import Receptor.Model.Aging
import Receptor.Generated.Facts
/-!
# C01 — routing converges to least-cost, loop-free next hops

Algorithm layer (`updateRoutingTable`): full-strength theorems for every graph and every pop
schedule.  Protocol layer: `flood_round_truth_partial` (one flooding round from a quiescent
state, simplified setting — see the file header of `Receptor.Proofs.FloodNet`) and, by induction over the phases between
topology changes, `flood_truth_after_changes_partial`.  Link layer (`Receptor.Aging`): a connection that carries nothing
is cancelled.
-/
namespace Receptor.Routing

/-- **Tie (translator)**: the relaxation test is a strict `<` on `cost[node] + edgeCost`, an
improved neighbour is (re-)inserted into the queue, labels start at 0 / +∞ over the keys of
the known-connections map, the next hop is found by walking `prev` until the node whose
predecessor is the local node, and unreachable destinations get no entry. -/
theorem C01_facts :
    Receptor.Facts.rt_relax = "pathCost := cost[node] + edgeCost;pathCost < cost[neighbor]"
    ∧ Receptor.Facts.rt_improve = "cost[neighbor] = pathCost;prev[neighbor] = node;Q.Insert(neighbor, pathCost)"
    ∧ Receptor.Facts.rt_init = "self:0.0;other:math.MaxFloat64;prev:\"\";keys:s.knownConnectionCosts"
    ∧ Receptor.Facts.rt_walk = "prev[p] == s.nodeID:s.routingTable[dest] = p;prev[p] == \"\":break;p = prev[p]"
    ∧ Receptor.Facts.rt_costs_published = "s.routingPathCosts = cost" :=
  ⟨rfl, rfl, rfl, rfl, rfl⟩

/-- **lc_correct.** For every graph and every order in which queued nodes are popped, when
the queue is empty every label is the least weight of a walk from the source and exactly the
reachable key nodes are labelled. -/
theorem lc_correct_every_schedule {g : Graph} {src : Node} {keys : List Node} {s : St}
    (hr : Reach g (initSt src keys) s) (hq : s.queue = []) :
    (∀ v c, s.cost v = some c → IsDist g src v c) ∧ (∀ v, s.cost v = none → ∀ W, ¬ Path g src v W) :=
  lc_correct hr hq

/-- **lc_terminates_every_schedule.** For every graph with finitely many key nodes the loop stops whatever the
order of pops: "one more pop" is a well-founded relation (no infinite run exists).  Weights are natural numbers
(zero weights and cycles included). -/
theorem lc_terminates_every_schedule (g : Graph) (ks : List Node) (hks : ∀ v, g.isKey v = true → v ∈ ks) :
    WellFounded (fun s' s : St => ∃ u, u ∈ s.queue ∧ s' = popRelax g s u) :=
  lc_terminates g ks hks

/-- **lc_completes.** … and therefore from every state the computation can be run to the end: a state with an
empty queue is reachable (to which `lc_correct_every_schedule` then applies). -/
theorem lc_completes (g : Graph) (ks : List Node) (hks : ∀ v, g.isKey v = true → v ∈ ks) (init : St) :
    ∀ s, Reach g init s → ∃ s', Reach g init s' ∧ s'.queue = [] := by
  intro s
  induction s using (lc_terminates g ks hks).induction with
  | _ s ih =>
    intro hr
    cases hq : s.queue with
    | nil => exact ⟨s, hr, hq⟩
    | cons u rest =>
      have hu : u ∈ s.queue := by rw [hq]; simp
      exact ih (popRelax g s u) ⟨u, hu, rfl⟩ (Reach.step hr hu)

/-- the reported path cost is *the* least cost: any two least weights agree -/
theorem isDist_unique {g : Graph} {a b : Node} {c c' : Nat} (h : IsDist g a b c) (h' : IsDist g a b c') : c = c' := by
  have := h.2 c' h'.1
  have := h'.2 c h.1
  omega

/-- **nexthop_valid.** The table entry for `d` is a directly connected neighbour `h` lying on a
least-cost path: `dist src d = w(src,h) + dist h d`. -/
theorem nexthop_valid {g : Graph} {src : Node} {keys : List Node} {s : St}
    (hr : Reach g (initSt src keys) s) (hq : s.queue = [])
    (hkeys : ∀ v c, s.cost v = some c → v ≠ src → g.isKey v = true)
    (fuel : Nat) (d h : Node) (c : Nat) (hn : nextHop s src fuel d = some h) (hc : s.cost d = some c) (hd : d ≠ src) :
    ∃ w0 R, (h, w0) ∈ g.adj src ∧ IsDist g src d c ∧ IsDist g h d R ∧ c = w0 + R :=
  nextHop_on_shortest hr hq hkeys fuel d h c hn hc hd

/-- **hop_decreases_distance.** With positive costs the next hop toward `d` is strictly closer
to `d` than the node itself (in the graph the table was computed from). -/
theorem hop_decreases_distance {g : Graph} {src : Node} {keys : List Node} {s : St}
    (hr : Reach g (initSt src keys) s) (hq : s.queue = []) (hpos : Positive g)
    (hkeys : ∀ v c, s.cost v = some c → v ≠ src → g.isKey v = true)
    (fuel : Nat) (d h : Node) (c : Nat) (hn : nextHop s src fuel d = some h) (hc : s.cost d = some c) (hd : d ≠ src) :
    ∃ R, IsDist g h d R ∧ IsDist g src d c ∧ R < c := by
  obtain ⟨w0, R, hadj, hsd, hhd, heq⟩ := nexthop_valid hr hq hkeys fuel d h c hn hc hd
  exact ⟨R, hhd, hsd, by have := hpos src h w0 hadj; omega⟩

/-- **table_dom (reachable ⇒ entry).** With positive costs every reachable destination gets a
table entry. -/
theorem table_has_reachable {g : Graph} {src : Node} {keys : List Node} {s : St}
    (hr : Reach g (initSt src keys) s) (hq : s.queue = []) (hpos : Positive g)
    (hkeys : ∀ v c, s.cost v = some c → v ≠ src → g.isKey v = true)
    (d : Node) (W : Nat) (hp : Path g src d W) (hd : d ≠ src) :
    ∃ c h, s.cost d = some c ∧ nextHop s src (c + 1) d = some h := by
  have hi := inv_reach (inv_init g src keys) hr
  obtain ⟨c, hc, _⟩ := hi.le_of_path hq hp
  obtain ⟨h, hh⟩ := nextHop_total hi hq hpos (c + 1) d c hc hd (Nat.lt_succ_self c)
  exact ⟨c, h, hc, hh⟩

/-- **table_dom (unreachable ⇒ dropped).** A destination that is not reachable in the known
graph gets no table entry, whatever the fuel. -/
theorem table_drops_unreachable {g : Graph} {src : Node} {keys : List Node} {s : St}
    (hr : Reach g (initSt src keys) s) (hq : s.queue = [])
    (d : Node) (hun : ∀ W, ¬ Path g src d W) (fuel : Nat) : nextHop s src fuel d = none := by
  cases hc : s.cost d with
  | none => exact nextHop_none_of_unlabelled (prevCost_reach hr) src d hc fuel
  | some c => exact absurd ((lc_correct hr hq).1 d c hc).1 (hun c)

/-- follow next hops toward `d`, starting at `u`, for at most `fuel` hops -/
def follow (tbl : Node → Option Node) (d : Node) : Nat → Node → List Node
  | 0, _ => []
  | f + 1, u => if u = d then [d] else
      match tbl u with
      | none => [u]
      | some h => u :: follow tbl d f h

/-- along the walk the potential falls from each node to every later one; the bound `B` is there for the induction -/
theorem follow_decreasing (tbl : Node → Option Node) (d : Node) (φ : Node → Nat)
    (hφ : ∀ u h, tbl u = some h → u ≠ d → φ h < φ u) (f : Nat) : ∀ (u : Node) (B : Nat), φ u < B →
    (∀ x ∈ follow tbl d f u, φ x < B) ∧ (follow tbl d f u).Pairwise (fun a b => φ b < φ a) := by
  have single : ∀ (u : Node) (B : Nat), φ u < B → (∀ x ∈ [u], φ x < B) ∧ [u].Pairwise (fun a b => φ b < φ a) :=
    fun u B hB => ⟨fun x hx => List.mem_singleton.mp hx ▸ hB, List.pairwise_singleton ..⟩
  induction f with
  | zero => exact fun u B _ => ⟨fun _ hx => (nomatch hx), .nil⟩
  | succ f ih =>
    intro u B hB
    unfold follow
    split
    · rename_i hud; exact hud ▸ single u B hB
    · split
      · exact single u B hB
      · rename_i hne _ h hh
        -- the rest of the walk stays below `φ u`: that bounds it, and places `u` before it
        have ih := ih h (φ u) (hφ u h hh hne)
        refine ⟨fun x hx => ?_, List.pairwise_cons.mpr ih⟩
        rcases List.mem_cons.mp hx with hx | hx
        · exact hx ▸ hB
        · exact Nat.lt_trans (ih.1 x hx) hB

/-- **walk_loop_free.** If along next hops toward `d` some potential strictly decreases (for
tables computed from one common graph that potential is the distance to `d`, see
`hop_decreases_distance`), following next hops never visits a node twice. -/
theorem walk_loop_free (tbl : Node → Option Node) (d : Node) (φ : Node → Nat)
    (hφ : ∀ u h, tbl u = some h → u ≠ d → φ h < φ u) :
    ∀ (f : Nat) (u : Node), (follow tbl d f u).Nodup := by
  intro f u
  refine (follow_decreasing tbl d φ hφ f u _ (Nat.lt_succ_self _)).2.imp fun hlt heq => ?_
  subst heq; exact Nat.lt_irrefl _ hlt

/-- Non-vacuity: the triangle a–b (1), b–c (1), a–c (5): from a, c costs 2 via b. -/
def exGraph : Graph :=
  { adj := fun v => if v = [1] then [([2], 1), ([3], 5)] else if v = [2] then [([1], 1), ([3], 1)]
                    else if v = [3] then [([2], 1), ([1], 5)] else [],
    isKey := fun v => v = [1] ∨ v = [2] ∨ v = [3] }

example : ∃ s, runFifo exGraph 10 (initSt [1] [[1], [2], [3]]) = some s ∧ s.cost [3] = some 2
    ∧ nextHop s [1] 3 [3] = some [2] := by
  refine ⟨_, rfl, by decide, by decide⟩

end Receptor.Routing

namespace Receptor.FloodNet

/-- **flood_round_truth_partial.** Protocol layer, simplified setting (static symmetric
irreflexive topology, a single epoch, no suspected-duplicate notices, no link events during
the round): from any quiescent state satisfying `Start` (nobody knows a stamp from the
future; seen/current IDs are accounted for), after node `m` has originated at least once and
the network is quiescent again, every other node of `m`'s component holds exactly `m`'s true
adjacency — for every interleaving of originations and deliveries and every delivery order on
every link (bag semantics).  Not yet covered (hence `_partial`): lexicographic (epoch,
sequence) stamps with restarts, notices, and preservation of `Start` by link up/down/expire
events; see DESIGN.md §5 C01. -/
theorem flood_round_truth_partial {adj : Node → Adj} (ht : Topo adj) {σ0 σ : Net} (h0 : Start adj σ0)
    (hr : Reach adj σ0 σ) (hquiet : ∀ a b, σ.q a b = [])
    (m : Node) (horig : σ0.seq m < σ.seq m) (n : Node) (hconn : Conn adj m n) (hnm : n ≠ m) :
    (σ.st n).known m = some (adj m) :=
  flood_round_truth ht h0 hr hquiet m horig n hconn hnm

/-- a quiescent state reached from a `Start` state is again a `Start` state — for whatever topology comes next -/
theorem start_of_reach_quiet {adj0 adj adj' : Node → Adj} (ht : Topo adj) {σ0 σ : Net} (h0 : Start adj0 σ0)
    (hr : Reach adj σ0 σ) (hq : ∀ a b, σ.q a b = []) : Start adj' σ :=
  have hg := good_reach ht (good_start h0) hr
  ⟨hq, hg.noFuture, hg.seenUsed, hg.curUsed, hg.seenCur⟩

/-- a history of phases: in each phase the topology is fixed (links came up or went down between phases, while
nothing was in flight), any number of originations and deliveries happen in any order, and the phase ends quiescent -/
inductive Phases : Net → List (Node → Adj) → Net → Prop
  | nil (σ : Net) : Phases σ [] σ
  | cons {σ0 σ1 σ2 : Net} {adj : Node → Adj} {rest : List (Node → Adj)} :
      Topo adj → Reach adj σ0 σ1 → (∀ a b, σ1.q a b = []) → Phases σ1 rest σ2 → Phases σ0 (adj :: rest) σ2

theorem start_of_phases {adjs : List (Node → Adj)} {adj0 adj' : Node → Adj} {σ0 σ : Net} (h0 : Start adj0 σ0)
    (hp : Phases σ0 adjs σ) : Start adj' σ := by
  induction hp with
  | nil σ => exact ⟨h0.quiet, h0.noFuture, h0.seenUsed, h0.curUsed, h0.seenCur⟩
  | cons ht hr hq _ ih => exact ih (start_of_reach_quiet ht h0 hr hq)

/-- **flood_truth_after_changes.** The topology may change any number of times (between quiescent moments): after the
last change, once `m` has originated again and the network is quiescent, every other node of `m`'s component *in the
final topology* holds exactly `m`'s final adjacency.  (`_partial`: still one epoch, and links change only while no
update is in flight.) -/
theorem flood_truth_after_changes_partial {adjs : List (Node → Adj)} {adj0 adjLast : Node → Adj} {σ0 σ1 σ : Net}
    (h0 : Start adj0 σ0) (hp : Phases σ0 adjs σ1) (ht : Topo adjLast) (hr : Reach adjLast σ1 σ)
    (hquiet : ∀ a b, σ.q a b = []) (m : Node) (horig : σ1.seq m < σ.seq m) (n : Node)
    (hconn : Conn adjLast m n) (hnm : n ≠ m) : (σ.st n).known m = some (adjLast m) :=
  flood_round_truth ht (start_of_phases (adj' := adjLast) h0 hp) hr hquiet m horig n hconn hnm

end Receptor.FloodNet

namespace Receptor.Aging

/-- **Tie (translator)**: `protoReader` continues on `ErrTimeout` before it stamps
`lastReceivedData`, and the monitor cancels when `time.Since(last) > maxConnectionIdleTime`. -/
theorem C01_aging_facts : Receptor.Facts.aging_stamp_after_timeout_continue = true
    ∧ Receptor.Facts.aging_cancel_test = "time.Since(connInfo.lastReceivedData) > s.maxConnectionIdleTime" :=
  ⟨rfl, rfl⟩

theorem step_last_of_not_data (idle : Nat) (s : Sess) : ∀ e, isData e = false → (step false idle s e).last = s.last
  | .timeout _, _ => by simp only [step]; split <;> rfl
  | .check _, _ => by simp only [step]; split <;> rfl

theorem step_cancelled (b : Bool) (idle : Nat) {s : Sess} (h : s.cancelled = true) (e : Ev) :
    (step b idle s e).cancelled = true := by
  cases e <;> simp only [step, h, if_true]
  split <;> simp [h]

theorem run_last_of_no_data (idle : Nat) (s : Sess) (evs : List Ev) (h : ∀ e ∈ evs, isData e = false) :
    (run false idle s evs).last = s.last :=
  List.foldlRecOn evs _ (motive := fun r : Sess => r.last = s.last) rfl
    fun r hr e he => (step_last_of_not_data idle r e (h e he)).trans hr

theorem run_cancelled (b : Bool) (idle : Nat) {s : Sess} (h : s.cancelled = true) (evs : List Ev) :
    (run b idle s evs).cancelled = true :=
  List.foldlRecOn evs _ (motive := fun r : Sess => r.cancelled = true) h fun _ hr e _ => step_cancelled b idle hr e

/-- **silent_link_expires.** A session that stays open but carries nothing — only receive
timeouts, however many — is cancelled by the first check that comes later than the idle limit
after the last datagram. -/
theorem silent_link_expires (idle : Nat) (s : Sess) (quiet : List Ev) (t : Nat) (rest : List Ev)
    (hq : ∀ e ∈ quiet, isData e = false) (ht : t - s.last > idle) :
    (run false idle s (quiet ++ .check t :: rest)).cancelled = true := by
  rw [run, List.foldl_append]
  refine run_cancelled false idle ?_ rest
  have hl := run_last_of_no_data idle s quiet hq
  rw [run] at hl
  simp only [step, hl, ht, if_true]

/-- a session that receives a datagram at least every `idle` ticks is never cancelled by a
check made within `idle` ticks of the last datagram -/
theorem live_link_kept (idle : Nat) (s : Sess) (t : Nat) (hc : s.cancelled = false) (h : t - s.last ≤ idle) :
    (step false idle s (.check t)).cancelled = false := by
  simp only [step]
  have : ¬ (t - s.last > idle) := by omega
  simp [this, hc]

/-- Witness of what the stamp-on-timeout variant would do: the silent session is never cancelled. -/
example : (run true 10 { last := 0 } [.timeout 5, .timeout 10, .timeout 15, .check 20]).cancelled = false := by decide
example : (run false 10 { last := 0 } [.timeout 5, .timeout 10, .timeout 15, .check 20]).cancelled = true := by decide

end Receptor.Aging

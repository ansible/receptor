import Receptor.Proofs.Wire
import Receptor.Proofs.Framer
import Receptor.Proofs.Forward
import Receptor.Proofs.ForwardSched
import Receptor.Generated.Facts
/-!
# C02 — datagrams arrive intact, only at the addressed service, with the true source
-/
namespace Receptor.C02
open Receptor.Wire Receptor.Framer Receptor.Forward

abbrev Bytes := List Nat

/-- the packet layout the source currently uses (regenerated facts) -/
def layoutFacts : Layout :=
  layoutOfFacts Receptor.Facts.wire_min_len Receptor.Facts.wire_from_off Receptor.Facts.wire_to_off
    Receptor.Facts.wire_fsvc_off Receptor.Facts.wire_tsvc_off Receptor.Facts.wire_data_off
    Receptor.Facts.wire_ttl_idx Receptor.Facts.wire_svc_len

/-- **Tie (translator)**: field offsets and widths of `translateDataToMessage` /
`translateDataFromMessage`, the framer's two-byte little-endian length, and the dispatch
order of `handleMessageData` (destination test before the registry lookup by ToService). -/
theorem C02_facts :
    layoutFacts = stdLayout
    ∧ Receptor.Facts.wire_enc_header = "MsgTypeData,msg.HopsToLive,0,0"
    ∧ Receptor.Facts.wire_enc_order = "FromNode,ToNode,FromService:8,ToService:8,Data"
    ∧ Receptor.Facts.wire_hash_endian = "BigEndian"
    ∧ Receptor.Facts.frame_len_bytes = 2 ∧ Receptor.Facts.frame_endian = "LittleEndian"
    ∧ Receptor.Facts.frame_get = "buffer[2:msgSize+2];buffer[msgSize+2:]"
    ∧ Receptor.Facts.dispatch_key = "md.ToNode == s.nodeID;s.listenerRegistry[md.ToService]" :=
  ⟨rfl, rfl, rfl, rfl, rfl, rfl, rfl, rfl⟩

/-- **decode_encode.** For every payload, TTL, node IDs known to the hash table without
collision, and service names of at most 8 bytes not ending in NUL (in particular 1–8
non-zero bytes), decoding an encoded packet returns exactly the packet. -/
theorem decode_encode (h : Bytes → Nat) (tbl : Nat → Option Bytes) (m : Msg)
    (hh : ∀ n, h n < 18446744073709551616)
    (hf : tbl (h m.fromNode) = some m.fromNode) (ht : tbl (h m.toNode) = some m.toNode)
    (hfs : svcOK m.fromSvc) (hts : svcOK m.toSvc) (httl : m.ttl < 256) :
    decode stdLayout tbl (encode h m) = .ok m := by
  rw [encode, decode_fields tbl (u64BE_length _) (u64BE_length _) (fixedLen_length _ _) (fixedLen_length _ _),
    beVal_u64BE _ (hh _), hf, beVal_u64BE _ (hh _), ht, stripZeros_fixedLen _ hfs, stripZeros_fixedLen _ hts,
    Nat.mod_eq_of_lt httl]

/-- Non-vacuity of `decode_encode`: an 8-byte and a 1-byte service name, empty payload. -/
example : svcOK [1, 2, 3, 4, 5, 6, 7, 8] ∧ svcOK [255] ∧ ¬ svcOK [1, 0] := by decide

/-- **decode_total / short packets**: fewer than 36 bytes is an error, for every table
(the decoder is a total function: it cannot index out of range). -/
theorem decode_short (tbl : Nat → Option Bytes) (d : Bytes) (h : d.length < 36) :
    decode stdLayout tbl d = .error .short := by
  simp [decode, stdLayout, h]

/-- the decoder's only outcomes on ≥ 36 bytes are a packet or "hash not found" -/
theorem decode_outcomes (tbl : Nat → Option Bytes) (d : Bytes) :
    (∃ m, decode stdLayout tbl d = .ok m) ∨ decode stdLayout tbl d = .error .short
      ∨ decode stdLayout tbl d = .error .hash := by
  cases decode stdLayout tbl d with
  | ok m => exact .inl ⟨m, rfl⟩
  | error e =>
    cases e with
    | short => exact .inr (.inl rfl)
    | hash => exact .inr (.inr rfl)

/-- **deframe_any_schedule.** For every list of messages (each shorter than 65536 bytes)
and every schedule of `RecvData` / `GetMessage` calls whose received chunks concatenate to the
framed stream — every chunking, including one-byte chunks and cuts inside a length prefix,
and every placement of the reads — the messages returned so far followed by those still
buffered are exactly the messages sent, in order, and nothing else is left. -/
theorem deframe_any_schedule (msgs : List Bytes) (hm : ∀ m ∈ msgs, m.length < 65536)
    (ops : List Op) (hc : chunksOf ops = (msgs.map frame).flatten) :
    (runOps [] ops).1 ++ (drain (runOps [] ops).2).1 = msgs ∧ (drain (runOps [] ops).2).2 = [] := by
  simpa only [List.nil_append, hc, drain_frames msgs hm] using runOps_drain ops []

/-- messages are never returned early, reordered or invented: at any point of any schedule the
messages returned so far are a prefix of the messages sent -/
theorem deframe_prefix (msgs : List Bytes) (hm : ∀ m ∈ msgs, m.length < 65536)
    (ops : List Op) (hc : chunksOf ops = (msgs.map frame).flatten) :
    (runOps [] ops).1 <+: msgs :=
  ⟨_, (deframe_any_schedule msgs hm ops hc).1⟩

/-- Non-vacuity: two messages cut into three chunks (one cut inside a length prefix), a read
attempted too early. -/
example : (runOps [] [.recv [2], .get, .recv [0, 7, 8, 0], .get, .recv [0], .get]).1 = [[7, 8], []]
    ∧ chunksOf [.recv [2], .get, .recv [0, 7, 8, 0], .get, .recv [0], .get]
        = ([[7, 8], []].map frame).flatten := by decide

/-- **deliver_exactly_once_at_addressee.** On a network whose tables route the packet to its
destination in `d ≤ ttl` links, one send is relayed along exactly those links and ends in
exactly one event: delivery at the destination node to the listener registered under the
addressed service — with the source node, source service and payload the sender put in
(`walk` carries the packet unchanged; only the budget decreases). -/
theorem deliver_exactly_once_at_addressee (net : Net) (p : Packet) (v0 : Node) (vs : List Node)
    (hr : IsRoute net p (v0 :: vs)) (hh : p.ttl < 256) (hd : vs.length ≤ p.ttl)
    (hfw : (net p.toNode).fw p.fromNode p.fromSvc p.toNode p.toSvc = .accept)
    (hsvc : p.toSvc ≠ pingSvc ∧ p.toSvc ≠ unreachSvc) (hl : (net p.toNode).listener p.toSvc = true) :
    route net v0 p = (links (v0 :: vs), ((v0 :: vs).getLast (by simp), .delivered)) := by
  rw [route, walk_route hr hd hh,
    (handle_eq_delivered (p := { p with ttl := p.ttl - vs.length })).mpr ⟨hfw, rfl, hsvc.1, hsvc.2, hl⟩]

/-- a packet for a service nobody listens on is never handed to another listener: the only
possible outcomes at the destination are an error to a local sender or a notice -/
theorem no_misdelivery (me : Node) (cfg : NodeCfg) (p : Packet)
    (hl : cfg.listener p.toSvc = false) : handle stdHops me cfg p ≠ .delivered := by
  intro h
  rw [(handle_eq_delivered.mp h).2.2.2.2] at hl
  cases hl

theorem addresseesFrom_not_mem (k : Nat) (ids : List Node) (t : Node) (h : t ∉ ids) : addresseesFrom k ids t = [] := by
  induction ids generalizing k with
  | nil => rfl
  | cons id rest ih =>
    simp only [List.mem_cons, not_or] at h
    simp [addresseesFrom, Ne.symm h.1, ih (k + 1) h.2]

theorem addresseesFrom_getElem : ∀ (ids : List Node) (k to : Nat) (hto : to < ids.length), ids.Nodup →
    addresseesFrom k ids ids[to] = [k + to]
  | id :: rest, k, 0, _, hnd => by
    simp [addresseesFrom, addresseesFrom_not_mem (k + 1) rest id (List.nodup_cons.mp hnd).1]
  | id :: rest, k, j + 1, hto, hnd => by
    have hnd' := List.nodup_cons.mp hnd
    have hj : j < rest.length := Nat.lt_of_succ_lt_succ hto
    have hne : ¬ id = rest[j] := fun e => hnd'.1 (e ▸ List.getElem_mem hj)
    simp [addresseesFrom, hne, addresseesFrom_getElem rest (k + 1) j hj hnd'.2, Nat.add_assoc, Nat.add_comm 1]

/-- **addressee_unique.** In a mesh whose node IDs are pairwise different as byte strings — IDs that differ only in
letter case included — a datagram addressed to a node is treated as local by that node and by no other. -/
theorem addressee_unique (ids : List Node) (h : ids.Nodup) (to : Nat) (hto : to < ids.length) :
    addressees ids ids[to] = [to] := by
  simpa [addressees] using addresseesFrom_getElem ids 0 to hto h

/-- Non-vacuity: IDs differing only in case are different nodes -/
example : addressees [[104, 117, 98], [72, 85, 66], [72, 117, 98]] [72, 85, 66] = [1] := by decide

/-- **stream_link_roundtrip.** A stream backend (TCP, WebSocket): every datagram is encoded, framed with its length and
written to the byte stream; the receiver reads the stream in chunks of any sizes, at any moments, deframes and decodes.
What it obtains is exactly the datagrams that were sent, in order — names, services, hop count and payload. -/
theorem stream_link_roundtrip (h : Bytes → Nat) (tbl : Nat → Option Bytes) (ms : List Msg)
    (hh : ∀ n, h n < 18446744073709551616)
    (hwf : ∀ m ∈ ms, tbl (h m.fromNode) = some m.fromNode ∧ tbl (h m.toNode) = some m.toNode ∧ svcOK m.fromSvc ∧ svcOK m.toSvc ∧ m.ttl < 256)
    (hlen : ∀ m ∈ ms, (encode h m).length < 65536)
    (ops : List Op) (hc : chunksOf ops = ((ms.map (encode h)).map frame).flatten) :
    ((runOps [] ops).1 ++ (drain (runOps [] ops).2).1).map (decode stdLayout tbl) = ms.map Except.ok := by
  rw [(deframe_any_schedule (ms.map (encode h)) (List.forall_mem_map.2 hlen) ops hc).1, List.map_map]
  apply List.map_congr_left
  intro m hmem
  obtain ⟨a, b, c, d, e⟩ := hwf m hmem
  rw [Function.comp_apply, decode_encode h tbl m hh a b c d e]


/-! ## Concurrent senders: any number of datagrams in flight, any schedule of their steps -/

/-- **concurrent_sends_independent.** For every network, every burst of sends (any senders, any addressees, any number)
and every schedule of single steps — any interleaving of the `handleMessageData` calls of the datagrams in flight —
once nothing is in flight any more, the datagrams that ended are exactly those of the sends followed one at a time:
send `k` ended once, at the node and with the outcome `Forward.route` gives it alone.  No schedule loses a datagram,
delivers one twice, or moves one to another listener. -/
theorem concurrent_sends_independent (net : Net) (sends : List (Node × Packet)) (sched : List Nat)
    (hq : ((launch sends).run stdHops net sched).flights = []) :
    ((launch sends).run stdHops net sched).ended.Perm (aloneFrom net 0 sends) := by
  simpa [hq] using run_launch_fates net sends sched

/-- …and at every moment of every schedule (whether or not anything is still in flight): whatever has ended is part of
that list — nothing is delivered that the send followed alone would not deliver, and nothing twice. -/
theorem concurrent_sends_safe_at_every_moment (net : Net) (sends : List (Node × Packet)) (sched : List Nat) :
    ∃ later : List Ended, (((launch sends).run stdHops net sched).ended ++ later).Perm (aloneFrom net 0 sends) :=
  ⟨_, run_launch_fates net sends sched⟩

/-- each send ends exactly once: the identities of the ended datagrams are `0 … n-1`, each once -/
theorem each_send_ends_once (net : Net) (sends : List (Node × Packet)) (sched : List Nat)
    (hq : ((launch sends).run stdHops net sched).flights = []) :
    (((launch sends).run stdHops net sched).ended.map Prod.fst).Perm (List.range sends.length) := by
  have h := (concurrent_sends_independent net sends sched hq).map Prod.fst
  rw [aloneFrom_ids] at h
  simpa [List.range_eq_range'] using h

/-- the premise "nothing is in flight any more" is met by a schedule for every burst: the steps a datagram may take are
bounded by its budget, so picking the first datagram in flight often enough empties the network -/
theorem some_schedule_drains (net : Net) (sends : List (Node × Packet)) :
    ∃ sched, ((launch sends).run stdHops net sched).flights = [] :=
  ⟨_, drains stdHops net _ (launch sends) (Nat.le_refl _)⟩

/-- a line 1 — 2 — 3 with a listener for service `[9]` on node 3 and on node 1 -/
def lineNet : Net := fun v =>
  { route := fun t => if t = v then none else if v = [2] then some t else some [2],
    conn := fun _ => true, listener := fun s => s = [9] && v != [2],
    fw := fun _ _ _ _ => .accept, maxHops := 30 }

def pk (a b : Node) (pay : Nat) : Packet := { fromNode := a, toNode := b, fromSvc := [7], toSvc := [9], ttl := 30, body := .raw [pay] }

/-- Non-vacuity: two datagrams crossing each other on the line, steps interleaved 1,1,0,1,0,0 — both delivered, each at
its addressee; the first to end is the second send. -/
example : ((launch [([1], pk [1] [3] 5), ([3], pk [3] [1] 6)]).run stdHops lineNet [1, 1, 0, 1, 0, 0]).flights.length = 0
    ∧ ((launch [([1], pk [1] [3] 5), ([3], pk [3] [1] 6)]).run stdHops lineNet [1, 1, 0, 1, 0, 0]).ended
        = [(1, ([1], .delivered)), (0, ([3], .delivered))] := by decide


/-- the source's choice (regenerated fact) -/
def copyOnSendOfFacts : Bool := decide (Receptor.Facts.send_local_copy = "local:copy")

/-- **local_send_intact.** A datagram sent to a listener on the same node arrives as it was when it was sent, whatever the
sender writes into its buffer after `WriteTo` has returned. -/
theorem local_send_intact (sent after : Bytes) : localRead copyOnSendOfFacts sent after = sent :=
  if_pos (decide_eq_true rfl)

/-- Witness: a message that shares the caller's buffer shows the reader bytes of the next send -/
theorem C02_witness_shared_buffer : localRead false [1, 1, 1] [2, 2, 1] = [2, 2, 1] ∧ localRead true [1, 1, 1] [2, 2, 1] = [1, 1, 1] := by
  decide

end Receptor.C02

import Receptor.Model.Bridge
import Receptor.Proofs.StreamEnd
import Receptor.Generated.Facts
/-!
# C03 — mesh streams are reliable ordered byte pipes (the part that is Receptor's own code)

Reliability, ordering and retransmission over lossy, reordering links are quic-go's; what Receptor
adds is the relay loop of the bridges and the end points.  The theorems are about that loop; the
end-to-end statement is exercised by the `stream` engine on lossy multi-hop meshes.
-/
namespace Receptor.Bridge

/-- **Tie (translator)**: the relay loop reads, notes an error, writes what was read *before* it acts on the
error, then closes the destination and stops; `BridgeConns` runs one relay per direction and waits for both;
a dial writes one zero byte, the listener reads and checks it — accepting it also when it arrives together
with the end of the stream; `Conn.Close` closes the writing side of the stream only; `ReadFrom` copies the
datagram's payload; both QUIC transports get a PacketConn that treats a momentarily missing next-hop
connection as loss of the datagram, and `forwardMessage` reports a next hop whose connection has gone or is
being torn down with exactly that error; a pending dial is cancelled by a notice about exactly its remote node and service. -/
theorem C03_facts :
    Receptor.Facts.bridge_loop = "read;err:shouldClose;n>0:write(buf[:n]),short->shouldClose;shouldClose:close(c2),return"
    ∧ Receptor.Facts.bridge_conns = "two-halves;wait-both"
    ∧ Receptor.Facts.stream_first_byte = "dial:write(0);accept:read(1);byte-with-eof:accepted;check(n==1,byte==0)"
    ∧ Receptor.Facts.stream_close = "Close:stream-write-side;CloseConnection:connection"
    ∧ Receptor.Facts.stream_readfrom_copy = "copy(p, m.Data)"
    ∧ Receptor.Facts.stream_quic_adapter = "transports:2;lost-not-fatal:errors.Is(err, ErrNoConnectionToNextHop)"
    ∧ Receptor.Facts.stream_link_gone_errors = "sentinel;wraps-sentinel"
    ∧ Receptor.Facts.unreach_dial_cancel = "msg.Problem == ProblemServiceUnknown && msg.ToNode == remoteAddr.node && msg.ToService == remoteAddr.service" :=
  ⟨rfl, rfl, rfl, rfl, rfl, rfl, rfl, rfl⟩

/-- one round of the relay loop when the destination accepts the write: the bytes read are appended, and the loop
goes on unless an error came with them -/
theorem bridgeHalf_cons (w : Writer) (hw : w.failAt = none) (r : ReadRes) (rest : List ReadRes) (o : Out)
    (ho : o.closed = false) :
    ∃ o1 : Out, o1.written = o.written ++ r.data ∧ o1.closed = false ∧
      bridgeHalf true w (r :: rest) o = if r.err then { o1 with closed := true } else bridgeHalf true w rest o1 := by
  have hfail : (w.failAt == some o.writes) = false := by rw [hw]; rfl
  cases hd : r.data with
  | nil => exact ⟨o, by simp, ho, by simp [bridgeHalf, ho, hd]⟩
  | cons b bs =>
    exact ⟨{ o with written := o.written ++ b :: bs, writes := o.writes + 1 }, rfl, ho,
      by simp [bridgeHalf, ho, hd, hfail]⟩

theorem bridgeHalf_acc (w : Writer) (hw : w.failAt = none) : ∀ (reads : List ReadRes) (o : Out), o.closed = false →
    (bridgeHalf true w reads o).written = o.written ++ upToFirstErr reads
    ∧ (bridgeHalf true w reads o).closed = hasErr reads := by
  intro reads
  induction reads with
  | nil => intro o ho; simp [bridgeHalf, upToFirstErr, hasErr, ho]
  | cons r rest ih =>
    intro o ho
    obtain ⟨o1, h1, h2, h⟩ := bridgeHalf_cons w hw r rest o ho
    rw [h]
    cases he : r.err with
    | true => simp [upToFirstErr, hasErr, he, h1]
    | false => simp [upToFirstErr, hasErr, he, ih o1 h2, h1]

theorem upToFirstErr_of_no_err : ∀ {reads : List ReadRes}, hasErr reads = false →
    upToFirstErr reads = reads.flatMap (·.data)
  | [], _ => rfl
  | r :: rest, h => by
    simp only [hasErr, List.any_cons, Bool.or_eq_false_iff] at h
    simp [upToFirstErr, h.1, upToFirstErr_of_no_err (reads := rest) h.2]

/-- **bridge_copies_exactly.** Whatever the chunking of the reads — including a last read that returns
bytes *together with* end-of-stream — a relay whose destination accepts its writes has written exactly
the bytes read up to and including that last read, in order, and has closed the destination if and only
if the source ended. -/
theorem bridge_copies_exactly (reads : List ReadRes) :
    (bridgeHalf true {} reads {}).written = upToFirstErr reads ∧ (bridgeHalf true {} reads {}).closed = hasErr reads := by
  simpa using bridgeHalf_acc {} rfl reads {} rfl

/-- **bridge_prefix_while_open.** While the source has not ended, what has been written is exactly what has been read. -/
theorem bridge_prefix_while_open (reads : List ReadRes) (h : hasErr reads = false) :
    (bridgeHalf true {} reads {}).written = reads.flatMap (·.data) ∧ (bridgeHalf true {} reads {}).closed = false := by
  obtain ⟨h1, h2⟩ := bridge_copies_exactly reads
  exact ⟨h1.trans (upToFirstErr_of_no_err h), h2.trans h⟩

/-- the variant that stops before writing what came with the end of the stream loses those bytes -/
theorem C03_witness_final_chunk_lost :
    (bridgeHalf false {} [⟨[104, 101, 97, 100], false⟩, ⟨[116, 97, 105, 108], true⟩] {}).written = [104, 101, 97, 100]
    ∧ (bridgeHalf true {} [⟨[104, 101, 97, 100], false⟩, ⟨[116, 97, 105, 108], true⟩] {}).written = [104, 101, 97, 100, 116, 97, 105, 108] := by
  decide

end Receptor.Bridge

namespace Receptor.StreamEnd
open Receptor.Bridge

/-- the listener's first-byte check as the source has it (regenerated fact) -/
def acceptOfSource : List ReadRes → Accept :=
  accept (decide (Receptor.Facts.stream_first_byte = "dial:write(0);accept:read(1);byte-with-eof:accepted;check(n==1,byte==0)"))

theorem acceptOfSource_eq : acceptOfSource = accept true := congrArg accept (decide_eq_true rfl)

/-- **accept_exact.** Whatever the application wrote after dialling — nothing at all included — and however
the stream presents `0 :: d` to the listener (any chunk sizes, the end of the stream arriving with the last
bytes or on its own), the listener accepts the stream and hands the application a stream that carries
exactly `d`, followed by the end of the stream. -/
theorem accept_exact (d : Bytes) (rs : List ReadRes) (h : Delivers rs (dialled d)) :
    ∃ rest, acceptOfSource rs = .accepted rest ∧ Delivers rest d := by
  obtain ⟨e, rest, hr, hd⟩ := readK_one h
  exact ⟨rest, by simp [acceptOfSource_eq, accept, hr], hd⟩

/-- **stream_end_to_end.** Dial, write `d` with any write boundaries, close the writing side; on the other
side accept and read with buffers of any sizes: the reads return consecutive slices of `d`, a read that
reports the end of the stream comes only after all of `d`, and `|d| + 1` reads always reach it. -/
theorem stream_end_to_end (d : Bytes) (rs : List ReadRes) (ks : List Nat) (h : Delivers rs (dialled d))
    (hks : ∀ k ∈ ks, 1 ≤ k) :
    ∃ rest, acceptOfSource rs = .accepted rest ∧
      (∃ tail, d = (readMany ks rest).flatMap (·.data) ++ tail) ∧
      (hasErr (readMany ks rest) = true → (readMany ks rest).flatMap (·.data) = d) ∧
      (d.length + 1 ≤ ks.length → hasErr (readMany ks rest) = true) := by
  obtain ⟨rest, ha, hd⟩ := accept_exact d rs h
  exact ⟨rest, ha, readMany_slices ks rest d hks hd⟩

/-- **relay_chain_exact.** Through any number of relays in a row (a `connect` session, a TCP or Unix-socket
proxy on either side of the mesh stream), each reading a faithful stream of what the previous one wrote,
the last one has written exactly the original bytes. -/
theorem relay_chain_exact : ∀ (stages : List (List ReadRes)) (w : Bytes), ChainDelivers stages w → chainOut stages w = w := by
  intro stages
  induction stages with
  | nil => intro w _; rfl
  | cons rs more ih =>
    intro w ⟨hd, hmore⟩
    rw [chainOut, ih _ hmore, (bridge_copies_exactly rs).1, hd.1]

/-- **accepted_then_relayed.** The pipeline of the `connect` command and of the proxies: the stream is
accepted and a relay copies it on — exactly the application's bytes arrive, then the destination is closed. -/
theorem accepted_then_relayed (d : Bytes) (rs : List ReadRes) (h : Delivers rs (dialled d)) :
    ∃ rest, acceptOfSource rs = .accepted rest ∧ (bridgeHalf true {} rest {}).written = d
      ∧ (bridgeHalf true {} rest {}).closed = true := by
  obtain ⟨rest, ha, hd⟩ := accept_exact d rs h
  obtain ⟨h1, h2⟩ := bridge_copies_exactly rest
  exact ⟨rest, ha, h1.trans hd.1, h2.trans hd.2.1⟩

/-- the hypotheses are satisfiable by non-trivial streams: three chunkings of `0 :: "hi!"` -/
example : Delivers [⟨[0, 104], false⟩, ⟨[105, 33], true⟩] (dialled [104, 105, 33])
    ∧ Delivers [⟨[0], false⟩, ⟨[104, 105, 33], false⟩, ⟨[], true⟩] (dialled [104, 105, 33])
    ∧ Delivers [⟨[0], true⟩] (dialled []) := by
  unfold Delivers WF; decide

/-- the defect repaired by e49e1d9, as a witness on the model: a listener that treats "byte together with
the end of the stream" as a read error refuses a stream whose dialler wrote nothing -/
theorem C03_witness_empty_dial_refused :
    accept false [⟨[0], true⟩] = .refusedReadError ∧ accept true [⟨[0], true⟩] = .accepted eofOnly := by
  decide

end Receptor.StreamEnd

import Receptor.Model.Crash
import Receptor.Generated.Facts
/-!
# C04 — acknowledged work units survive crash/restart with identity and outcome
-/
namespace Receptor.Crash

/-- **Tie (translator)**: records are rewritten in place (truncate, then write — not replaced atomically);
`scanForUnit`'s steps; what `Restart` does for command units and for remote units; registering a work type
rescans the data directory; a remote unit's ID is stored before its stdin is streamed. -/
theorem C04_facts :
    Receptor.Facts.crash_rewrite_atomic = false
    ∧ Receptor.Facts.crash_scan = "not-a-dir:return;load-ignoring-errors;type-registered:its-worker|unknown-worker;no-status-file:return;load-error:mark-failed;restart-error:mark-failed;register"
    ∧ Receptor.Facts.crash_cmd_restart = "load:err->return;complete:return;pending:mark-failed;monitor"
    ∧ Receptor.Facts.crash_remote_restart = "started:resume|error"
    ∧ Receptor.Facts.crash_remote_bind_order = "store(RemoteUnitID);stream-stdin;store(RemoteStarted)"
    ∧ Receptor.Facts.crash_register_rescans = true :=
  ⟨rfl, rfl, rfl, rfl, rfl, rfl⟩

/-- every state the disk goes through: the step just taken and the disk after it -/
def scan : Disk → List FsStep → List (FsStep × Disk)
  | _, [] => []
  | d, s :: rest => (s, apply d s) :: scan (apply d s) rest

/-- the disk after the unit was created (its ID is handed out only after this) -/
def created (r0 : Rec) : Disk := applyAll {} [.mkdir, .truncate, .write r0]

/-- At every crash point of a unit's life after its creation the disk holds, complete, the last record
written — except, when records are rewritten in place, between a truncation and its write. -/
theorem scan_rewrites (atomic : Bool) : ∀ (later : List Rec) (r0 : Rec),
    ∀ x ∈ scan { dir := true, status := .full r0 } (later.flatMap (rewrite atomic)),
      (atomic = false ∧ x.1 = .truncate) ∨ ∃ r ∈ later, x.2 = { dir := true, status := .full r } := by
  intro later
  induction later with
  | nil => intro r0 x hx; cases hx
  | cons r rest ih =>
    intro r0 x hx
    have tail : ∀ x ∈ scan { dir := true, status := .full r } (rest.flatMap (rewrite atomic)),
        (atomic = false ∧ x.1 = .truncate) ∨ ∃ r' ∈ r :: rest, x.2 = { dir := true, status := .full r' } :=
      fun x hx => (ih r x hx).imp_right fun ⟨r', hr', h⟩ => ⟨r', List.mem_cons_of_mem _ hr', h⟩
    cases atomic
    · rcases List.mem_cons.mp hx with rfl | hx
      · exact .inl ⟨rfl, rfl⟩
      rcases List.mem_cons.mp hx with rfl | hx
      · exact .inr ⟨r, List.mem_cons_self .., rfl⟩
      · exact tail x hx
    · rcases List.mem_cons.mp hx with rfl | hx
      · exact .inr ⟨r, List.mem_cons_self .., rfl⟩
      · exact tail x hx

/-- a complete record is listed with its work type, output size and binding; only the state may be replaced -/
theorem view_full (remoteType : Nat) (types : List Nat) (r : Rec) :
    ∃ st, restartView remoteType types { dir := true, status := .full r } = .listed r.wt st r.size r.remote := by
  -- every branch lists the record, with a state of its own: move the branching into the state
  simp only [restartView, Bool.not_true, Bool.false_eq_true, if_false, ← apply_ite (View.listed r.wt · r.size r.remote)]
  exact ⟨_, rfl⟩

/-- **survives_crash_outside_rewrite_partial.** With records rewritten in place (what the source does): whenever
the node dies at any point after a unit was created, except between the truncation and the write of a
rewrite, the restarted node lists the unit with its work type.  (*Partial*: the excluded window is real —
see `C04_witness_type_lost_in_window` and the recorded finding.) -/
theorem survives_crash_outside_rewrite_partial (remoteType : Nat) (types : List Nat) (r0 : Rec) (later : List Rec)
    (hs : sameType r0.wt later) (x : FsStep × Disk) (hx : x ∈ scan (created r0) (later.flatMap (rewrite false)))
    (hw : x.1 ≠ .truncate) : ∃ st sz rm, restartView remoteType types x.2 = .listed r0.wt st sz rm := by
  rcases scan_rewrites false later r0 x hx with h | ⟨r, hr, h⟩
  · exact absurd h.2 hw
  · obtain ⟨st, hv⟩ := view_full remoteType types r
    exact ⟨st, r.size, r.remote, by rw [h, hv, hs r hr]⟩

/-- **survives_every_crash_if_atomic.** If records were replaced atomically, this would hold for every crash point. -/
theorem survives_every_crash_if_atomic (remoteType : Nat) (types : List Nat) (r0 : Rec) (later : List Rec)
    (hs : sameType r0.wt later) (x : FsStep × Disk) (hx : x ∈ scan (created r0) (later.flatMap (rewrite true))) :
    ∃ st sz rm, restartView remoteType types x.2 = .listed r0.wt st sz rm := by
  rcases scan_rewrites true later r0 x hx with h | ⟨r, hr, h⟩
  · cases h.1
  · obtain ⟨st, hv⟩ := view_full remoteType types r
    exact ⟨st, r.size, r.remote, by rw [h, hv, hs r hr]⟩

/-- **finished_survives.** A unit whose stored record says succeeded or failed is reported with the same state,
output size and binding after a restart. -/
theorem finished_survives (remoteType : Nat) (types : List Nat) (r : Rec) (hc : complete r.state = true) (hn : r.wt ≠ remoteType) :
    restartView remoteType types { dir := true, status := .full r } = .listed r.wt r.state r.size r.remote := by
  simp only [restartView, Bool.not_true, Bool.false_eq_true, if_false, hn, hc, if_true, ite_self]

/-- **never_started_is_failed.** A local unit still pending on disk is reported failed, not pending; a remote
unit that had not been started remotely is reported failed; in both cases work type and binding are kept. -/
theorem never_started_is_failed (remoteType : Nat) (types : List Nat) (r : Rec) (ht : types.contains r.wt = true) :
    (r.wt ≠ remoteType → r.state = 0 → restartView remoteType types { dir := true, status := .full r } = .listed r.wt 3 r.size r.remote)
    ∧ (r.wt = remoteType → r.started = false → restartView remoteType types { dir := true, status := .full r } = .listed r.wt 3 r.size r.remote) := by
  constructor
  · intro hn hp
    have hm : r.wt ∈ types := by simpa using ht
    simp [restartView, hm, hn, hp, complete]
  · rintro rfl hs
    simp only [restartView, ht, hs, Bool.not_true, Bool.false_eq_true, if_false, if_true]

/-- **remote_binding_survives.** A remote unit that had been started is reported with the node it is bound to and its stored state. -/
theorem remote_binding_survives (remoteType : Nat) (types : List Nat) (r : Rec) (ht : types.contains r.wt = true)
    (hr : r.wt = remoteType) (hs : r.started = true) :
    restartView remoteType types { dir := true, status := .full r } = .listed r.wt r.state r.size r.remote := by
  subst hr
  simp only [restartView, ht, hs, Bool.not_true, Bool.false_eq_true, if_false, if_true]

/-! ### the binding of a remote unit (what `ackcrash` runs) -/

/-- **binding_survives_crash_after_ack_partial.** From the moment the record carrying a binding `b` (for a remote unit: the
executing node and the remote unit it answered with) is on disk, and whatever rewrites follow that keep work type and
binding — state changes, output sizes, `RemoteStarted` — a node that dies at any point, except between the truncation and
the write of a rewrite, comes back listing the unit with that work type and that binding.  While a remote unit's stdin is
being sent no step touches the record (fact `crash_remote_bind_order`), so every instant of the transfer is such a point.
(*Partial*: same excluded window as `survives_crash_outside_rewrite_partial`.) -/
theorem binding_survives_crash_after_ack_partial (remoteType : Nat) (types : List Nat) (r1 : Rec) (later : List Rec)
    (hs : ∀ r ∈ later, r.wt = r1.wt ∧ r.remote = r1.remote) (x : FsStep × Disk)
    (hx : x ∈ scan { dir := true, status := .full r1 } (later.flatMap (rewrite false))) (hw : x.1 ≠ .truncate) :
    ∃ st sz, restartView remoteType types x.2 = .listed r1.wt st sz r1.remote := by
  rcases scan_rewrites false later r1 x hx with h | ⟨r, hr, h⟩
  · exact absurd h.2 hw
  · obtain ⟨st, hv⟩ := view_full remoteType types r
    exact ⟨st, r.size, by rw [h, hv, (hs r hr).1, (hs r hr).2]⟩

/-- …and at the instants of the stdin transfer themselves (no step since the record with the binding was written) -/
theorem binding_on_disk_during_stdin (remoteType : Nat) (types : List Nat) (r0 r1 : Rec) :
    ∃ st sz, restartView remoteType types (applyAll {} (history false r0 [r1])) = .listed r1.wt st sz r1.remote :=
  (view_full remoteType types r1).imp fun _ h => ⟨_, h⟩

/-- Witness: if the remote unit is stored only with the final rewrite, the node that dies during the transfer comes back
without it -/
theorem C04_witness_binding_lost_without_early_store :
    restartView 1 [1] (applyAll {} (history false { wt := 1, state := 0, size := 0, remote := none } [])) = .listed 1 3 0 none
    ∧ restartView 1 [1] (applyAll {} (history false { wt := 1, state := 0, size := 0, remote := none }
        [{ wt := 1, state := 0, size := 0, remote := some 7 }])) = .listed 1 3 0 (some 7) := by decide

/-- the recorded finding: a crash between the truncation and the write of any rewrite leaves an empty record;
the restarted node lists the unit as failed with *no* work type and *no* remote binding -/
theorem C04_witness_type_lost_in_window :
    ∃ x ∈ scan (created { wt := 7, state := 0, size := 0, remote := some 9 })
        ([{ wt := 7, state := 1, size := 5, remote := some 9, started := true }].flatMap (rewrite false)),
      restartView 7 [7] x.2 = .listed 0 3 0 none :=
  ⟨(.truncate, { dir := true, status := .empty }), by decide, by decide⟩

/-- Non-vacuity: a finished unit after two rewrites, crash after the last write -/
example : restartView 1 [1, 7] (applyAll {} (history false { wt := 7, state := 0, size := 0 } [{ wt := 7, state := 1, size := 3 }, { wt := 7, state := 2, size := 9 }]))
    = .listed 7 2 9 none := by decide

/-- the source's choice (regenerated fact): `findUnit` reads the unit's directory whenever the table does not have the ID -/
def rescanOfFacts : Bool := decide (Receptor.Facts.crash_findunit = "table;miss:scanForUnit-unconditional;table")

theorem rescan_of_source : rescanOfFacts = true := by decide +kernel

theorem rsteps_disk (steps : List RStep) (r : Reg) : (steps.foldl rstep r).disk = r.disk :=
  List.foldlRecOn (motive := fun r' => r'.disk = r.disk) steps rstep rfl fun r' h s _ => by
    cases s with
    | drop id => exact h
    | readd id => simp only [rstep]; split <;> exact h

/-- **known_at_every_moment.** At every moment of the re-registration — after any number of units have been taken out of
the table and any number put back — a unit that has a readable record on disk is found. -/
theorem known_at_every_moment (steps : List RStep) (r : Reg) (id : Nat) (h : id ∈ r.disk) :
    findUnit true (steps.foldl rstep r) id = true := by
  have hd := rsteps_disk steps r
  simp only [findUnit, hd, Bool.true_and, Bool.or_eq_true, List.contains_iff_mem]
  exact .inr h

/-- Witness: without the read on a miss, a unit is unknown between being taken out and being put back -/
theorem C04_witness_unknown_during_registration :
    findUnit false ([RStep.drop 7].foldl rstep { active := [7], disk := [7] }) 7 = false
    ∧ findUnit true ([RStep.drop 7].foldl rstep { active := [7], disk := [7] }) 7 = true := by decide

end Receptor.Crash

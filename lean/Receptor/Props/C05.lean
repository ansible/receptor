import Receptor.Proofs.Results
import Receptor.Generated.Facts
/-!
# C05 — work results stream exactly the output from any offset and end when complete
-/
namespace Receptor.Results

/-- **Tie (translator)**: `GetResults` ends when the state is final (succeeded, failed or cancelled)
and the position has reached the recorded size; each read seeks to `filePos`, fills a buffer made for
that read and sends exactly the bytes read; `monitorRemoteStdout` measures the local size inside its
loop right before each request, asks from that offset and appends what arrives. -/
theorem C05_facts :
    Receptor.Facts.res_end_cond = "(IsComplete(unitStatus.State) || unitStatus.State == WorkStateCanceled) && filePos >= unitStatus.StdoutSize"
    ∧ Receptor.Facts.res_iscomplete = "return workState == WorkStateSucceeded || workState == WorkStateFailed"
    ∧ Receptor.Facts.res_nostdout_cond = "IsComplete(state) || state == WorkStateCanceled"
    ∧ Receptor.Facts.res_buffer = "per-read"
    ∧ Receptor.Facts.res_loop = "seek(filePos);read;n>0:advance,send(buf[:n])"
    ∧ Receptor.Facts.res_remote_offset = "diskStdoutSize := stdoutSize(rw.UnitDir());workSubmitCmd[\"startpos\"] = diskStdoutSize"
    ∧ Receptor.Facts.res_remote_write = "append;io.Copy(stdout, reader)"
    ∧ Receptor.Facts.res_remote_sign = "per-request:1;outside-the-loop:0" :=
  ⟨rfl, rfl, rfl, rfl, rfl, rfl, rfl, rfl⟩

/-- **sent_is_exact_slice.** For every interleaving of the unit's writes, status rewrites and the
reader's reads and checks, and every start offset, what has been sent so far is exactly the
bytes of the output from the start offset up to the reader's position: in order, no gap, no
repeat.  (The file only grows, so this is a prefix of what will have been sent in the end.) -/
theorem sent_is_exact_slice (T : Nat → Bool) (start : Nat) (evs : List Ev) :
    (run T (init start) evs).sent = ((run T (init start) evs).file.drop start).take ((run T (init start) evs).pos - start)
    ∧ start ≤ (run T (init start) evs).pos := by
  have h := inv_run T start evs
  have h1 := h.sent
  have h2 := h.lo
  rw [run_start T evs (init start)] at h1 h2
  exact ⟨h1, h2⟩

/-- **never_ends_early.** If the reader takes for terminal only states that are final, then whenever
the stream has ended the unit has finished and everything it ever wrote from the start offset on
has been sent: the stream never ends before the output is complete. -/
theorem never_ends_early (T : Nat → Bool) (hT : ∀ st, T st = true → finished st = true) (start : Nat) (evs : List Ev)
    (he : (run T (init start) evs).ended = true) :
    finished (run T (init start) evs).state = true ∧ (run T (init start) evs).sent = (run T (init start) evs).file.drop start := by
  have h := inv_run T start evs
  obtain ⟨ht, hp⟩ := endok_run T hT start evs he
  have hf := hT _ ht
  have hrec := h.fin hf
  refine ⟨hf, ?_⟩
  rw [h.sent, run_start T evs (init start)]
  exact List.take_of_length_le (by rw [List.length_drop]; omega)

/-! ### It does end (fair reader) -/

def reads (k n : Nat) : List Ev := List.replicate n (.read k)

theorem step_read_progress (T : Nat → Bool) (s : St) (k : Nat) (h1 : s.ended = false) (h2 : s.atEof = false) (hk : k ≠ 0)
    (hlt : s.pos < s.file.length) :
    step T s (.read k) = { s with sent := s.sent ++ (s.file.drop s.pos).take k, pos := s.pos + ((s.file.drop s.pos).take k).length } := by
  simp [step, h1, h2, hk, hlt]

theorem step_read_eof (T : Nat → Bool) (s : St) (k : Nat) (h1 : s.ended = false) (h2 : s.atEof = false) (hk : k ≠ 0)
    (hge : ¬ s.pos < s.file.length) : step T s (.read k) = { s with atEof := true } := by
  simp [step, h1, h2, hk, hge]

theorem step_read_idle (T : Nat → Bool) (s : St) (k : Nat) (h : s.atEof = true) : step T s (.read k) = s := by
  simp [step, h]

theorem run_reads_idle (T : Nat → Bool) (k n : Nat) (t : St) (ht : t.atEof = true) : run T t (reads k n) = t :=
  List.foldlRecOn (motive := (· = t)) (reads k n) (step T) rfl fun s h e he => by
    rw [h, List.eq_of_mem_replicate he]; exact step_read_idle T t k ht

/-- where enough reads lead: end-of-file seen, the position at the end of the file, the status record as it was -/
def AtEnd (s s' : St) : Prop :=
  s'.atEof = true ∧ s'.state = s.state ∧ s'.recorded = s.recorded ∧ s.file.length ≤ s'.pos

theorem reads_reach_eof (T : Nat → Bool) (k : Nat) (hk : k ≠ 0) : ∀ (m : Nat) (s : St), s.file.length - s.pos ≤ m →
    s.ended = false → s.atEof = false → AtEnd s (run T s (reads k (m + 1))) := by
  intro m
  induction m with
  | zero =>
    intro s hm he ha
    have hge : ¬ s.pos < s.file.length := by omega
    show AtEnd s (step T s (.read k))
    rw [step_read_eof T s k he ha hk hge]
    exact ⟨rfl, rfl, rfl, Nat.le_of_not_lt hge⟩
  | succ m ih =>
    intro s hm he ha
    show AtEnd s (run T (step T s (.read k)) (reads k (m + 1)))
    by_cases hlt : s.pos < s.file.length
    · -- a read that makes progress: at least one byte closer to the end
      rw [step_read_progress T s k he ha hk hlt]
      have hlen : 0 < ((s.file.drop s.pos).take k).length := by rw [List.length_take, List.length_drop]; omega
      exact ih { s with sent := s.sent ++ (s.file.drop s.pos).take k, pos := s.pos + ((s.file.drop s.pos).take k).length }
        (show s.file.length - (s.pos + _) ≤ m by omega) he ha
    · rw [step_read_eof T s k he ha hk hlt, run_reads_idle T k _ _ rfl]
      exact ⟨rfl, rfl, rfl, Nat.le_of_not_lt hlt⟩

theorem run_append (T : Nat → Bool) (a b : List Ev) (t : St) : run T t (a ++ b) = run T (run T t a) b := by
  simp [run, List.foldl_append]

theorem run_of_ended (T : Nat → Bool) (s : St) (evs : List Ev) (he : s.ended = true) (hf : finished s.state = true) :
    run T s evs = s :=
  List.foldlRecOn (motive := (· = s)) evs (step T) rfl fun s' h e _ => by rw [h]; exact step_of_ended T s e he hf

theorem check_ends (T : Nat → Bool) (s : St) (ha : s.atEof = true) (ht : T s.state = true) (hp : s.recorded ≤ s.pos) :
    (step T s .check).ended = true := by
  cases he : s.ended <;> simp [step, he, ha, ht, hp]

/-- a check either ends the stream or leaves the reader with the end-of-file flag down -/
theorem step_check (T : Nat → Bool) (s : St) (he : s.ended = false) :
    step T s .check = { s with ended := true } ∨ step T s .check = { s with atEof := false } := by
  obtain ⟨file, state, recorded, start, pos, sent, atEof, ended⟩ := s
  cases he
  cases atEof
  · exact .inr rfl
  · simp only [step, Bool.false_or, Bool.not_true, Bool.false_eq_true, if_false]
    split
    · exact .inl rfl
    · exact .inr rfl

/-- **ends_once_finished.** If the reader takes every final state for terminal, then once the unit has
finished, a reader that is not yet done and keeps running ends the stream: one check, enough reads,
one more check. -/
theorem ends_once_finished (T : Nat → Bool) (hT : ∀ st, finished st = true → T st = true) (k : Nat) (hk : k ≠ 0)
    (s : St) (hi : Inv s) (hf : finished s.state = true) (he : s.ended = false) :
    (run T s ([.check] ++ reads k (s.file.length - s.pos + 1) ++ [.check])).ended = true := by
  show (run T (step T s .check) (reads k (s.file.length - s.pos + 1) ++ [.check])).ended = true
  rcases step_check T s he with e1 | e1 <;> rw [e1]
  · -- the first check ends the stream; nothing changes afterwards
    rw [run_of_ended T { s with ended := true } _ rfl hf]
  · -- otherwise the reads reach the end of the file, and the second check finds the recorded size reached
    rw [run_append]
    obtain ⟨a, c, d, f⟩ := reads_reach_eof T k hk (s.file.length - s.pos) { s with atEof := false } (Nat.le_refl _) he rfl
    exact check_ends T _ a (by rw [c]; exact hT _ hf) (by rw [d]; exact hi.fin hf ▸ f)

/-- Once the unit has finished the producer's events change nothing, and a reader that does not take the
final state for terminal goes on reading and checking without ever ending the stream. -/
theorem step_not_terminal (T : Nat → Bool) (s : St) (e : Ev) (hf : finished s.state = true) (hT : T s.state = false) :
    (step T s e).ended = s.ended ∧ (step T s e).state = s.state := by
  cases e with
  | append _ | record _ | finish _ => simp [step, hf]
  | read k => simp only [step, apply_ite St.ended, apply_ite St.state, ite_self, and_self]
  | check => simp only [step, hT, Bool.false_and, Bool.false_eq_true, if_false, apply_ite St.ended, apply_ite St.state, ite_self, and_self]

theorem never_ends_of_not_terminal (T : Nat → Bool) (s : St) (hf : finished s.state = true) (hT : T s.state = false)
    (evs : List Ev) : (run T s evs).ended = s.ended ∧ (run T s evs).state = s.state :=
  List.foldlRecOn (motive := fun s' => s'.ended = s.ended ∧ s'.state = s.state) evs (step T) ⟨rfl, rfl⟩ fun s' h e _ => by
    obtain ⟨he, hs⟩ := step_not_terminal T s' e (h.2 ▸ hf) (h.2 ▸ hT)
    exact ⟨he.trans h.1, hs.trans h.2⟩

/-- **cancelled_never_ends.** With the completion test the source had (succeeded or failed only), the
results of a cancelled unit never end, whatever the reader does — the defect repaired in /repo. -/
theorem cancelled_never_ends (s : St) (hs : s.state = 4) (evs : List Ev) :
    (run isComplete s evs).ended = s.ended ∧ (run isComplete s evs).state = 4 := by
  have := never_ends_of_not_terminal isComplete s (by rw [hs]; rfl) (by rw [hs]; rfl) evs
  rwa [hs] at this

/-! ### Remote units -/

/-- a request from the local size appends the next bytes of the remote output -/
theorem session_of_prefix {remote loc t : Bytes} (ht : loc ++ t = remote) (cut : Nat) :
    session remote loc loc.length cut = loc ++ t.take cut := by
  rw [session, ← ht, List.drop_left]

/-- **mirror_prefix.** For every history of remote output and results requests cut short at arbitrary
points, the local copy is a prefix of the remote output. -/
theorem mirror_prefix (evs : List MEv) : ∀ (m : Mirror), m.loc <+: m.remote → (mrun m evs).loc <+: (mrun m evs).remote :=
  fun m h => List.foldlRecOn (motive := fun m => m.loc <+: m.remote) evs mstep h fun m ⟨t, ht⟩ e _ => by
    cases e with
    | grow bs => exact ⟨t ++ bs, show m.loc ++ (t ++ bs) = m.remote ++ bs by rw [← List.append_assoc, ht]⟩
    | fetch cut =>
      refine ⟨t.drop cut, ?_⟩
      show session m.remote m.loc m.loc.length cut ++ _ = m.remote
      rw [session_of_prefix ht, List.append_assoc, List.take_append_drop, ht]

/-- **mirror_completes.** A request that is not cut short brings the local copy level with the remote output. -/
theorem mirror_completes (m : Mirror) (h : m.loc <+: m.remote) (cut : Nat) (hc : m.remote.length - m.loc.length ≤ cut) :
    (mstep m (.fetch cut)).loc = m.remote := by
  obtain ⟨t, ht⟩ := h
  show session m.remote m.loc m.loc.length cut = m.remote
  rw [← ht, List.length_append, Nat.add_sub_cancel_left] at hc
  rw [session_of_prefix ht, List.take_of_length_le hc, ht]

/-- a request from a stale offset (smaller than the local size) duplicates output: the local copy is no longer a prefix -/
example : ¬ (session [1, 2, 3, 4, 5] [1, 2, 3] 2 10 <+: [1, 2, 3, 4, 5]) := by decide

/-- Non-vacuity: output written in two chunks, asked from offset 1 while running, followed to the end -/
example :
    let s := run isCompleteOrCancelled (init 1)
      [.append [10, 11, 12], .read 2, .record 3, .read 2, .check, .append [13], .finish 2, .check, .read 8, .read 8, .check]
    s.ended = true ∧ s.sent = [11, 12, 13] := by decide

theorem afterLine_eq_drop : ∀ s : List Nat, afterLine s = s.drop (lineLen s) := by
  intro s
  induction s with
  | nil => rfl
  | cons c rest ih =>
    by_cases h : c = 10
    · simp [afterLine, lineLen, h]
    · simp only [afterLine, lineLen, h, if_false]
      rw [ih, Nat.add_comm]
      rfl

theorem drop_eq_drop_drop {l : List Nat} {a k : Nat} (h : a ≤ k) : l.drop k = (l.drop a).drop (k - a) := by
  rw [List.drop_drop, Nat.add_sub_of_le h]

/-- **body_via_same_reader_exact.** However much of the stream the buffered reader had pulled when it found the end of
the reply line — the line alone, or the line and any amount of the data that follows, as happens when they arrive
together — copying the body from that same reader yields exactly the bytes after the line. -/
theorem body_via_same_reader_exact (stream : List Nat) (k : Nat) (hk : lineLen stream ≤ k) :
    bodyCopied true stream k = afterLine stream := by
  rw [afterLine_eq_drop]
  simp only [bodyCopied, if_true]
  rw [List.drop_take, drop_eq_drop_drop hk, List.take_append_drop]

/-- copying from the connection underneath loses exactly what the reader had pulled beyond the line -/
theorem body_via_conn_loses (stream : List Nat) (k : Nat) (hk : lineLen stream ≤ k) :
    bodyCopied false stream k = (afterLine stream).drop (k - lineLen stream) := by
  rw [afterLine_eq_drop]
  simp only [bodyCopied, Bool.false_eq_true, if_false]
  exact drop_eq_drop_drop hk

/-- Witness: the line and the first five bytes of data arrive together -/
theorem C05_witness_body_past_reader :
    bodyCopied false [83, 10, 1, 2, 3, 4, 5, 6, 7] 7 = [6, 7] ∧ bodyCopied true [83, 10, 1, 2, 3, 4, 5, 6, 7] 7 = [1, 2, 3, 4, 5, 6, 7] := by
  decide

end Receptor.Results

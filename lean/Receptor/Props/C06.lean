import Receptor.Proofs.Flood
import Receptor.Generated.Facts
/-!
# C06 — routing knowledge never regresses; updates are applied and relayed at most once
-/
namespace Receptor.Flood

/-- the staleness rule the source currently implements (regenerated facts) -/
def staleOfFacts : StaleRule :=
  { olderEpochDrops := Receptor.Facts.route_stale_epoch = "ri.UpdateEpoch < ni.Epoch",
    sameEpochLeDrops := Receptor.Facts.route_stale_seq = "ri.UpdateEpoch == ni.Epoch && ri.UpdateSequence <= ni.Sequence",
    dedupFirst := Receptor.Facts.route_dedup_first,
    excludeReceiver := Receptor.Facts.route_relay_call = "s.flood(message, recvConn)" }

/-- **Tie (translator)**: the two staleness tests and their operators, the dedup by UpdateID
before any processing (and before the seen-table insert under the same lock), the relay
through `flood(message, recvConn)` after `ForwardingNode` was rewritten, the self-origin
filter ahead of everything else. -/
theorem C06_facts : staleOfFacts = stdStale
    ∧ Receptor.Facts.route_self_filter = "ri.NodeID == s.nodeID;ri.UpdateEpoch == s.epoch;ri.SuspectedDuplicate == s.epoch;ri.UpdateEpoch > s.epoch"
    ∧ Receptor.Facts.route_forwarder_rewrite = true
    ∧ Receptor.Facts.route_seen_atomic = true :=
  ⟨by simp [staleOfFacts, stdStale, Facts.route_stale_epoch, Facts.route_stale_seq, Facts.route_dedup_first,
      Facts.route_relay_call], rfl, rfl, rfl⟩

/-- **Tie (translator)** for the expiry event of `Ev.expire`: `expireSeenUpdates` writes nothing but the seen table (entries
deleted, under the table's lock) — in particular not the recorded stamps. -/
theorem C06_facts_expiry : Receptor.Facts.route_expire_writes = "delete:s.seenUpdates;under:seenUpdatesLock" := rfl

/-- **replay_is_noop.** An update whose ID was already seen changes nothing and produces no
message, whatever else it contains. -/
theorem replay_is_noop (s : NodeState) (u : Update) (recv : Node) (fresh : UpdateID)
    (h0 : u.nodeID ≠ []) (h1 : u.nodeID ≠ s.id) (hs : u.updateID ∈ s.seen) :
    step stdStale s u recv fresh = (s, []) := by
  simp [step, h0, h1, remoteStep, stdStale, hs]

/-- **stale_is_noop.** A genuine update that is older than or equal to the one already
accepted from the same origin (by epoch, then sequence) leaves the picture of the network
(`known`) and the recorded stamp (`info`) untouched and is not relayed. -/
theorem stale_is_noop (s : NodeState) (u : Update) (recv : Node) (fresh : UpdateID) (ni : Nat × Nat)
    (h0 : u.nodeID ≠ []) (h1 : u.nodeID ≠ s.id) (hn : u.suspectedDuplicate = 0)
    (hi : s.info.get? u.nodeID = some ni) (hle : lexLe (u.epoch, u.seq) ni = true) :
    (step stdStale s u recv fresh).2 = [] ∧ (step stdStale s u recv fresh).1.known = s.known
      ∧ (step stdStale s u recv fresh).1.info = s.info ∧ (step stdStale s u recv fresh).1.conns = s.conns := by
  rcases step_outcome s u recv fresh with h | h
  · exact ⟨List.eq_nil_iff_forall_not_mem.2 fun a ha => h1 (h.own a ha).1, h.known, h.info, h.conns⟩
  · rw [(h.stamp hn).2 ni hi] at hle; cases hle

/-- **no_self_accept.** An update naming this node as origin from its own current run
changes nothing and produces no message. -/
theorem no_self_accept (R : StaleRule) (s : NodeState) (u : Update) (recv : Node) (fresh : UpdateID)
    (h0 : u.nodeID = s.id) (he : u.epoch = s.epoch) : step R s u recv fresh = (s, []) := by
  unfold step
  split
  · rfl
  · simp [selfStep, he]

/-- an update naming this node as origin never touches the picture of the network, whatever
its epoch: it is never "accepted" -/
theorem self_origin_never_accepted (R : StaleRule) (s : NodeState) (u : Update) (recv : Node) (fresh : UpdateID)
    (h0 : u.nodeID = s.id) :
    (step R s u recv fresh).1.known = s.known ∧ (step R s u recv fresh).1.info = s.info :=
  have h := step_quiet_of_self R s u recv fresh h0
  ⟨h.known, h.info⟩

/-- **relay_excludes_receiver.** Every message a node sends in reaction to another node's
update goes to one of its connections, never to the connection the update came from, and
carries the update unchanged except for the forwarder field. -/
theorem relay_excludes_receiver (s : NodeState) (u : Update) (recv : Node) (fresh : UpdateID)
    (h0 : u.nodeID ≠ s.id) (a : Action) (ha : a ∈ (step stdStale s u recv fresh).2) :
    isReq a = true ∨
      ∃ c, a = .send c { u with forwardingNode := s.id } ∧ c ≠ recv ∧ s.conns.contains c = true := by
  rcases step_outcome s u recv fresh with h | h
  · exact absurd (h.own a ha).1 h0
  · exact h.mem ha

theorem lexLe_iff {a b : Nat × Nat} : lexLe a b = true ↔ a.1 < b.1 ∨ (a.1 = b.1 ∧ a.2 ≤ b.2) := by
  simp [lexLe]

theorem lexLe_refl (a : Nat × Nat) : lexLe a a = true := lexLe_iff.2 (.inr ⟨rfl, Nat.le_refl _⟩)

/-- `a ≤ b < c` gives `a ≤ c` -/
theorem lexLe_of_le_of_lt {a b c : Nat × Nat} (h1 : lexLe a b = true) (h2 : lexLe c b = false) : lexLe a c = true := by
  rw [← Bool.not_eq_true] at h2
  rw [lexLe_iff] at *
  omega

/-- origin `o`'s recorded stamp is at least `st`: an ordinary update of `o` stamped `st` is dropped as stale -/
def Blocked (o : Node) (st : Nat × Nat) (s : NodeState) : Prop := ∃ ni, s.info.get? o = some ni ∧ lexLe st ni = true

/-- a recorded stamp is only ever replaced by a newer one -/
theorem blocked_step {s : NodeState} {u : Update} (recv : Node) (fresh : UpdateID) {o : Node} {st : Nat × Nat}
    (hn : u.suspectedDuplicate = 0) (hb : Blocked o st s) : Blocked o st (step stdStale s u recv fresh).1 := by
  rcases step_outcome s u recv fresh with h | h
  · rw [Blocked, h.info]; exact hb
  · obtain ⟨ni, hni, hle⟩ := hb
    obtain ⟨hinfo, hnew⟩ := h.stamp hn
    rw [Blocked, hinfo, KMap.get?_set]
    split
    · next ho => subst ho; exact ⟨_, rfl, lexLe_of_le_of_lt hle (hnew ni hni)⟩
    · exact ⟨ni, hni, hle⟩

/-- the recorded stamp of `origin` does not decrease across `step`, for updates that are not
suspected-duplicate notices -/
theorem info_monotone (s : NodeState) (u : Update) (recv : Node) (fresh : UpdateID) (origin : Node)
    (hn : u.suspectedDuplicate = 0) (old : Nat × Nat) (ho : s.info.get? origin = some old) :
    ∃ new, (step stdStale s u recv fresh).1.info.get? origin = some new ∧ lexLe old new = true :=
  blocked_step recv fresh hn ⟨old, ho, lexLe_refl old⟩

theorem relaysOf_eq_nil {me : Node} {i : UpdateID} {acts : List Action}
    (h : ∀ c w, Action.send c w ∈ acts → w.nodeID = me) : relaysOf me i acts = [] := by
  simp only [relaysOf, List.filter_eq_nil_iff]
  intro a ha
  cases a with
  | send c w => simp [h c w ha]
  | _ => simp

/-- **flood_terminates (per node).** One step relays an update to at most as many
connections as the node has; together with `relay_at_most_once` the total number of relays
of one update in the network is bounded by the sum of the node degrees, for every delivery
order, duplication and loss. -/
theorem flood_terminates_bound (s : NodeState) (u : Update) (recv : Node) (fresh : UpdateID) (i : UpdateID) :
    (relaysOf s.id i (step stdStale s u recv fresh).2).length ≤ s.conns.length := by
  rcases step_outcome s u recv fresh with h | h
  · rw [relaysOf_eq_nil fun c w hm => (h.own _ hm).2 c w rfl]
    exact Nat.zero_le _
  · obtain ⟨pre, hpre, hacts⟩ := h.acts
    rw [hacts, relaysOf, List.filter_append, ← relaysOf, relaysOf_eq_nil fun c w hm => (by cases hpre _ hm),
      List.nil_append]
    calc _ ≤ (relayActs stdStale (markSeen s u.updateID) u recv).length := List.length_filter_le ..
      _ ≤ s.conns.length := by simp only [relayActs, floodTo, List.length_map]; exact List.length_filter_le ..

/-! ### histories of updates in which the seen table may expire -/

/-- the seen table forgets any of its entries at any moment (`expireSeenUpdates`: which ones depends on the clock) -/
def forget (s : NodeState) (keep : UpdateID → Bool) : NodeState := { s with seen := s.seen.filter keep }

inductive Ev where
  | upd (u : Update) (recv : Node) (fresh : UpdateID)
  | expire (keep : UpdateID → Bool)

def stepE (s : NodeState) : Ev → NodeState × List Action
  | .upd u recv fresh => step stdStale s u recv fresh
  | .expire keep => (forget s keep, [])

def runE : NodeState → List Ev → NodeState × List (List Action)
  | s, [] => (s, [])
  | s, ev :: rest => ((runE (stepE s ev).1 rest).1, (stepE s ev).2 :: (runE (stepE s ev).1 rest).2)

def ordinary : Ev → Bool
  | .upd u _ _ => u.suspectedDuplicate == 0
  | .expire _ => true

/-- the relays, among a step's actions, of the update that origin `o` stamped `(e, q)` -/
def relaysStamp (me o : Node) (e q : Nat) (acts : List Action) : List Action :=
  acts.filter fun a =>
    match a with
    | .send _ w => w.nodeID == o && w.epoch == e && w.seq == q && w.nodeID != me
    | _ => false

def stampSteps (me o : Node) (e q : Nat) (acts : List (List Action)) : Nat :=
  (acts.filter fun a => !(relaysStamp me o e q a).isEmpty).length

/-- number of steps of a run that relay update ID `i` -/
def relaySteps (me : Node) (i : UpdateID) (acts : List (List Action)) : Nat :=
  (acts.filter fun a => !(relaysOf me i a).isEmpty).length

/-! ### at most one relay per update: by ID while the ID is not expired, by stamp even when it is -/

theorem stepE_id (s : NodeState) (ev : Ev) : (stepE s ev).1.id = s.id := by
  cases ev with
  | upd u recv fresh => rcases step_outcome s u recv fresh with h | h <;> exact h.id
  | expire keep => rfl

theorem run_eq_runE (s : NodeState) (inputs : List (Update × Node × UpdateID)) :
    run stdStale s inputs = runE s (inputs.map fun x => .upd x.1 x.2.1 x.2.2) := by
  induction inputs generalizing s with
  | nil => rfl
  | cons x rest ih => simp only [run, List.map_cons, runE, stepE, ih]

theorem runE_keeps {ok : Ev → Prop} {B : NodeState → Prop} (hkeep : ∀ s ev, ok ev → B s → B (stepE s ev).1) :
    ∀ (evs : List Ev) (s : NodeState), (∀ ev ∈ evs, ok ev) → B s → B (runE s evs).1
  | [], _, _, hb => hb
  | ev :: rest, s, hall, hb =>
    runE_keeps hkeep rest _ (fun x hx => hall x (List.mem_cons_of_mem _ hx)) (hkeep s ev (hall ev List.mem_cons_self) hb)

/-- The counting argument.  `fires` is a test on the actions of one step; if it can only pass in a step that turns the
state predicate `B` from false to true, and `B` once true stays true, then it passes in at most one step of a run, and in
none when `B` holds at the start. -/
theorem runE_fires_once {ok : Ev → Prop} {B : NodeState → Prop} {fires : Node → List Action → Bool}
    (hfire : ∀ s ev, ok ev → fires s.id (stepE s ev).2 = true → ¬ B s ∧ B (stepE s ev).1)
    (hkeep : ∀ s ev, ok ev → B s → B (stepE s ev).1) :
    ∀ (evs : List Ev) (s : NodeState), (∀ ev ∈ evs, ok ev) →
      ((runE s evs).2.filter (fires s.id)).length ≤ 1 ∧ (B s → ((runE s evs).2.filter (fires s.id)).length = 0) := by
  intro evs
  induction evs with
  | nil => intro s _; simp [runE]
  | cons ev rest ih =>
    intro s hall
    have hok := hall ev List.mem_cons_self
    obtain ⟨ih1, ih0⟩ := ih (stepE s ev).1 fun x hx => hall x (List.mem_cons_of_mem _ hx)
    rw [stepE_id] at ih1 ih0
    simp only [runE, List.filter_cons]
    cases hf : fires s.id (stepE s ev).2 with
    | false => exact ⟨ih1, fun hb => ih0 (hkeep s ev hok hb)⟩
    | true =>
      obtain ⟨hn, hb⟩ := hfire s ev hok hf
      exact ⟨by simp [ih0 hb], fun h => absurd h hn⟩

theorem relays_of_send {s : NodeState} {u : Update} {recv : Node} {fresh : UpdateID} {c : Node} {w : Update}
    (h : .send c w ∈ (step stdStale s u recv fresh).2) (hw : w.nodeID ≠ s.id) :
    Relays s u recv (step stdStale s u recv fresh) ∧ w = { u with forwardingNode := s.id } := by
  rcases step_outcome s u recv fresh with hq | hr
  · exact absurd ((hq.own _ h).2 c w rfl) hw
  · rcases hr.mem h with hreq | ⟨_, hc, _⟩
    · cases hreq
    · cases hc; exact ⟨hr, rfl⟩

/-- the tests of `relaySteps` and `stampSteps` on a step's actions have this form, with `p` a test of the ID resp. the stamp -/
theorem relays_of_fires {s : NodeState} {ev : Ev} {p : Update → Bool}
    (h : (!((stepE s ev).2.filter fun a => match a with | .send _ w => p w && w.nodeID != s.id | _ => false).isEmpty) = true) :
    ∃ u recv fresh, ev = .upd u recv fresh ∧ Relays s u recv (step stdStale s u recv fresh) ∧
      p { u with forwardingNode := s.id } = true := by
  rw [Bool.not_eq_true', List.isEmpty_eq_false_iff_exists_mem] at h
  obtain ⟨a, ha⟩ := h
  rw [List.mem_filter] at ha
  cases ev with
  | expire keep => cases ha.1
  | upd u recv fresh =>
    cases a with
    | send c w =>
      obtain ⟨hp, hw⟩ : p w = true ∧ w.nodeID ≠ s.id := by simpa using ha.2
      obtain ⟨hr, rfl⟩ := relays_of_send ha.1 hw
      exact ⟨u, recv, fresh, rfl, hr, hp⟩
    | _ => cases ha.2

theorem seen_grows {s : NodeState} (u : Update) (recv : Node) (fresh : UpdateID) {i : UpdateID} (hi : i ∈ s.seen) :
    i ∈ (step stdStale s u recv fresh).1.seen := by
  rcases step_outcome s u recv fresh with h | h
  · rcases h.seen with e | e
    · rw [e]; exact hi
    · rw [e]; exact List.mem_append_left _ hi
  · rw [h.seen]; exact List.mem_append_left _ hi

/-- A node relays update ID `i` in at most one step of any history in which `i` is not expired from the seen table: a step
that relays `i` had not seen it and records it, and the table otherwise only grows. -/
theorem relay_at_most_once_unexpired (i : UpdateID) (evs : List Ev) (s : NodeState)
    (hall : ∀ ev ∈ evs, ∀ keep, ev = .expire keep → keep i = true) : relaySteps s.id i (runE s evs).2 ≤ 1 := by
  refine (runE_fires_once (B := fun s => i ∈ s.seen) (fires := fun me a => !(relaysOf me i a).isEmpty) ?_ ?_ evs s hall).1
  · intro s ev _ hf
    obtain ⟨u, recv, fresh, rfl, hr, hi⟩ := relays_of_fires hf
    obtain rfl : u.updateID = i := by simpa using hi
    exact ⟨hr.fresh, by simp [stepE, hr.seen]⟩
  · intro s ev hok hi
    cases ev with
    | expire keep => exact List.mem_filter.2 ⟨hi, hok keep rfl⟩
    | upd u recv fresh => exact seen_grows u recv fresh hi

/-- **relay_at_most_once.** In any history of received updates — any order, duplication,
replays — a node relays any given update ID in at most one step (as long as the ID has not
been expired from its seen table). -/
theorem relay_at_most_once : ∀ (inputs : List (Update × Node × UpdateID)) (s : NodeState) (i : UpdateID),
    relaySteps s.id i (run stdStale s inputs).2 ≤ 1 := by
  intro inputs s i
  rw [run_eq_runE]
  apply relay_at_most_once_unexpired
  intro ev hev keep he
  subst he
  simp at hev

/-- Non-vacuity: a fresh update is accepted and relayed to the other neighbour only; its
replay and an older one are dropped. -/
def exState : NodeState :=
  { id := [1], epoch := 100, seq := 0, conns := [([2], 1), ([3], 1)], info := [], known := [], seen := [] }
def exUpd (q : Nat) (uid : Nat) : Update :=
  { nodeID := [2], updateID := [uid], epoch := 7, seq := q, conns := some [([1], 1)], forwardingNode := [2],
    suspectedDuplicate := 0 }

example : (step stdStale exState (exUpd 5 50) [2] []).2
    = [.reqFlood, .reqTable, .send [3] { exUpd 5 50 with forwardingNode := [1] }] := by decide
example : relaySteps [1] [50] (run stdStale exState [(exUpd 5 50, [2], []), (exUpd 5 50, [3], []), (exUpd 4 51, [3], [])]).2 = 1 := by
  decide

theorem blocked_stepE (o : Node) (st : Nat × Nat) (s : NodeState) (ev : Ev) (ho : ordinary ev = true)
    (hb : Blocked o st s) : Blocked o st (stepE s ev).1 := by
  cases ev with
  | expire keep => exact hb
  | upd u recv fresh => exact blocked_step recv fresh (by simpa [ordinary] using ho) hb

/-- **relay_at_most_once_despite_expiry_partial.** In any history of ordinary updates (no suspected-duplicate notices:
those bypass the stamp test by design) in which the seen table forgets any of its entries at any moments, a node relays
the update that origin `o` stamped `(e, q)` in at most one step — under whatever update IDs copies of it arrive: what
stops the second relay is the recorded stamp, which never regresses, not the seen table. -/
theorem relay_at_most_once_despite_expiry_partial (o : Node) (e q : Nat) : ∀ (evs : List Ev) (s : NodeState),
    (∀ ev ∈ evs, ordinary ev = true) → stampSteps s.id o e q (runE s evs).2 ≤ 1 := by
  intro evs s hall
  refine (runE_fires_once (B := Blocked o (e, q)) (fires := fun me a => !(relaysStamp me o e q a).isEmpty) ?_
    (blocked_stepE o (e, q)) evs s hall).1
  intro s ev hok hf
  obtain ⟨u, recv, fresh, rfl, hr, hp⟩ := relays_of_fires hf
  simp only [Bool.and_eq_true, beq_iff_eq] at hp
  obtain ⟨⟨rfl, rfl⟩, rfl⟩ := hp
  obtain ⟨hinfo, hnew⟩ := hr.stamp (by simpa [ordinary] using hok)
  refine ⟨fun ⟨ni, hni, hle⟩ => ?_, _, ?_, lexLe_refl _⟩
  · rw [hnew ni hni] at hle; cases hle
  · simp [stepE, hinfo, KMap.get?_set]

/-- the recorded stamps never regress in such a history either (expiry touches only the seen table) -/
theorem info_monotone_despite_expiry (o : Node) : ∀ (evs : List Ev) (s : NodeState) (old : Nat × Nat),
    (∀ ev ∈ evs, ordinary ev = true) → s.info.get? o = some old →
    ∃ new, (runE s evs).1.info.get? o = some new ∧ lexLe old new = true :=
  fun evs s old hall h => runE_keeps (blocked_stepE o old) evs s hall ⟨old, h, lexLe_refl old⟩

/-- Non-vacuity: the update is relayed, its ID is expired from the seen table, the same update arrives again (same ID, and
under another ID) — not relayed again; without the stamp test it would be (the seen table no longer knows it). -/
example : stampSteps [1] [2] 7 5 (runE exState [.upd (exUpd 5 50) [2] [], .expire (fun _ => false), .upd (exUpd 5 50) [3] [],
    .upd (exUpd 5 51) [3] []]).2 = 1
    ∧ (runE exState [.upd (exUpd 5 50) [2] [], .expire (fun _ => false)]).1.seen = [] := by decide

end Receptor.Flood

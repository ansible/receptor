import Receptor.Proofs.Proto
import Receptor.Generated.Facts
/-!
# C07 — no bytes from a backend peer can crash or wedge a node
-/
namespace Receptor.Proto

/-- the guards the source currently has (regenerated facts) -/
def guardsOfFacts : Guards :=
  { emptyDatagram := Receptor.Facts.proto_empty_guard, adNilEmbedded := Receptor.Facts.proto_ad_nil_guard,
    pingFromPing := Receptor.Facts.proto_ping_guard, positiveCosts := Receptor.Facts.proto_cost_guard,
    emptyPeerID := Receptor.Facts.adm_empty_id_guard, removeOnAllExits := Receptor.Facts.adm_remove_on_all_exits }

/-- **Tie (translator)**: `runProtocol` tests the datagram length before reading its type byte,
`handleServiceAdvertisement` refuses a message without the embedded advertisement,
`handlePing` does not answer the "ping" service, routing updates with a non-positive cost are
dropped before they are applied; the type dispatch and the minimum data-packet length are as
modelled. -/
theorem C07_facts :
    guardsOfFacts.emptyDatagram = true ∧ guardsOfFacts.adNilEmbedded = true ∧ guardsOfFacts.pingFromPing = true
    ∧ guardsOfFacts.positiveCosts = true
    ∧ Receptor.Facts.proto_dispatch = "established:MsgTypeData,MsgTypeRoute,MsgTypeServiceAdvertisement,MsgTypeReject,default;unestablished:MsgTypeRoute,MsgTypeReject"
    ∧ Receptor.Facts.wire_min_len = 36 :=
  ⟨rfl, rfl, rfl, rfl, rfl, rfl⟩

/-- **proto_no_crash.** With those guards, no datagram — of any length from 0, any type byte,
any JSON value shape in the body, any field type substitution, any data-packet header — in
either protocol phase, and whatever the node-wide state, makes the session's step panic, die
or spin for ever. -/
theorem proto_no_crash (B : Backend) (sh : Shared) (s : Sess) (d : Dgram) :
    isCrash (step allGuards B sh s d).2.2 = false := by
  rcases step_cases allGuards B sh s d with h | ⟨o, _, _, hg⟩ | h | ⟨ru, _, h⟩ | ⟨_, ru, _, _, _, h⟩
  · rw [h]; rfl
  · rcases hg with hg | hg | hg <;> cases hg
  · rw [h]; rfl
  · rw [h]; rcases checkPeer_cases allGuards sh s ru with ⟨_, h2⟩ | ⟨_, h2⟩ <;> rw [h2] <;> rfl
  · rw [h]; rcases admitPeer_cases allGuards B sh s ru with ⟨_, h2⟩ | ⟨_, _, _, _, h2⟩ <;> rw [h2] <;> rfl

/-- … and never leaves the routing computation in a state where it need not terminate: with
the cost guard no update with a non-positive cost is ever applied -/
theorem proto_never_poisons (B : Backend) (sh : Shared) (s : Sess) (d : Dgram) :
    (step allGuards B sh s d).1.poisoned = sh.poisoned := by
  rcases step_shared allGuards B sh s d with h | h | ⟨ru, h⟩ | ⟨id, _, h⟩ <;> rw [h]
  · exact removeConn_poisoned _ _
  · rfl  -- with the cost guard `poisons allGuards ru` computes to `false`

/-- … hence no finite sequence of datagrams on a session does -/
theorem proto_script_no_crash (B : Backend) : ∀ (script : List Dgram) (sh : Shared) (s : Sess),
    ∀ o ∈ (runSess allGuards B sh s script).2.2, isCrash o = false := by
  intro script
  induction script with
  | nil => intro sh s o h; cases h
  | cons d rest ih =>
    intro sh s o h
    have hd := proto_no_crash B sh s d
    rw [runSess] at h
    generalize step allGuards B sh s d = r at h hd
    obtain ⟨sh', s', o'⟩ := r
    -- the step's own output comes first; what follows, if anything, is a run of the rest
    have : o ∈ o' :: (runSess allGuards B sh' s' rest).2.2 := by
      cases o' with
      | continue_ | established => exact h
      | _ => exact List.mem_cons.mpr (.inl (List.mem_singleton.mp h))
    rcases List.mem_cons.mp this with rfl | h'
    · exact hd
    · exact ih _ _ o h'

/-- a misbehaving peer can only end its own session: whatever it sends, the only connection a
session's step ever removes is the session's own -/
theorem session_isolated (G : Guards) (B : Backend) (sh : Shared) (s : Sess) (d : Dgram) (other : Bytes)
    (ho : other ∈ sh.connections) (hne : other ≠ s.remoteID) (hest : s.established = true) :
    other ∈ (step G B sh s d).1.connections := by
  rcases step_shared G B sh s d with h | h | ⟨ru, h⟩ | ⟨id, _, h⟩ <;> rw [h]
  · exact ho
  · rw [removeConn]; split
    · exact ho
    · exact List.mem_filter.mpr ⟨ho, by simpa using hne⟩
  · rw [poison_connections]; exact ho
  · exact List.mem_append_left _ ho

/-! ### Witnesses of the defects of the pinned tree (each guard switched off) -/

def noGuards : Guards :=
  { emptyDatagram := false, adNilEmbedded := false, pingFromPing := false, positiveCosts := false,
    emptyPeerID := false, removeOnAllExits := false }
def exB : Backend := { cost := 1000000, nodeCost := [], allowed := none }
def exSh : Shared := { self := n "me", connections := [n "peer"] }
def exS : Sess := { established := true, remoteEstablished := true, remoteID := n "peer", cost := 1000000 }

/-- an empty datagram indexed `data[0]` -/
theorem C07_witness_empty : (step noGuards exB exSh exS .empty).2.2 = .panic := by decide
/-- the advertisement `{}` (no embedded object) was dereferenced -/
theorem C07_witness_advert : (step noGuards exB exSh exS (.advert (some (.obj [])) true)).2.2 = .panic := by decide
/-- a ping from this node's own "ping" service recursed without bound -/
theorem C07_witness_ping : (step noGuards exB exSh exS (.data .pingLoop)).2.2 = .fatal := by decide
/-- a routing update with a negative cost was applied (a reachable negative cycle ⇒ the
routing computation never ends, holding the known-nodes lock) -/
theorem C07_witness_cost :
    (step noGuards exB exSh exS (.route (some (.obj [(n "NodeID", .str (n "x")), (n "ForwardingNode", .str (n "peer")),
        (n "Connections", .obj [(n "y", .num none (some (-1000000)))])])))).1.poisoned = true := by decide +kernel

end Receptor.Proto

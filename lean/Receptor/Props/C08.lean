import Receptor.Model.Ctl
import Receptor.Model.LockOrder
import Receptor.Proofs.Utf8
import Receptor.Generated.Facts
/-!
# C08 — no control-service input can crash or wedge a node; sessions are isolated

Theorems over `Receptor.Ctl` (the session loop, the command table, every built-in command's
`InitFromString` / `InitFromJSON`, and `ControlFunc` as far as it touches the unit index), for
every request line, every JSON decoding of it and every state of the unit index.
-/
namespace Receptor.Ctl

theorem findUnit_no_deadlock (u : Units) (id : Bytes) : findUnit allGuards u id ≠ .deadlock := by
  unfold findUnit
  split
  · simp
  · split
    · simp only [allGuards, Bool.not_true, Bool.false_eq_true, if_false]
      split <;> simp
    · simp

theorem withUnit_safe (u : Units) (id : Bytes) (k : Units → Units × Outcome) (hk : ∀ u', (k u').2.safe = true) :
    (withUnit allGuards u id k).2.safe = true := by
  unfold withUnit
  split
  · exact hk _
  · rfl
  · exact absurd ‹_› (findUnit_no_deadlock u id)

theorem runCmd_safe (u : Units) (c : Cmd) : (runCmd allGuards u c).2.safe = true := by
  cases c with
  | workSubmit wt sig =>
    simp only [runCmd]
    split
    · rfl
    · split <;> rfl
  | workList id =>
    cases id with
    | none => rfl
    | some id => exact withUnit_safe _ _ _ (fun _ => rfl)
  | workStatus id => exact withUnit_safe _ _ _ (fun _ => rfl)
  | workCancel id sig => exact withUnit_safe _ _ _ (fun _ => rfl)
  | workRelease id sig => exact withUnit_safe _ _ _ (fun _ => by split <;> rfl)
  | workResults id sig => exact withUnit_safe _ _ _ (fun _ => by split <;> rfl)
  | _ => rfl

theorem initJson_no_panic {G : Guards} (hg : G.statusFieldsTyped = true) (cmd : Bytes) (kv : List (Bytes × J)) :
    initJson G cmd kv ≠ some .panic := by
  unfold initJson
  split
  · unfold initStatusJson
    split <;> simp [hg]
  · cases initJsonOther cmd kv <;> simp

/-- A request line is answered with `ERROR` lines only, or parses to a command that is run (`validRequest` says
whether it is one that is carried out), or makes `InitFromJSON` panic where the type check is missing. -/
theorem handleLine_cases (G : Guards) (u : Units) (line : Bytes) (jv : Option (List (Bytes × J))) :
    (∃ m ms, handleLine G u line jv = (u, .replies ((m :: ms).map .err)))
    ∨ (∃ c, handleLine G u line jv = runCmd G u c ∧ validRequest G line jv = (c != .workBad))
    ∨ (handleLine G u line jv = (u, .panic) ∧ G.statusFieldsTyped = false) := by
  unfold handleLine validRequest
  by_cases hb : line.head? = some 123
  · rw [if_pos hb, if_pos hb]
    rcases jv with _ | kv
    · exact .inl ⟨_, [_], rfl⟩
    dsimp only
    rcases lookup kv (b "command") with _ | j
    · exact .inl ⟨_, [_], rfl⟩
    cases j with
    | str cmd =>
      dsimp only
      rcases hi : initJson G cmd kv with _ | (c | m) | _
      · exact .inl ⟨_, [], rfl⟩
      · exact .inr (.inl ⟨c, rfl, rfl⟩)
      · exact .inl ⟨m, [], rfl⟩
      · exact .inr (.inr ⟨rfl, Bool.eq_false_iff.mpr fun hg => initJson_no_panic hg cmd kv hi⟩)
    | _ => exact .inl ⟨_, [_], rfl⟩
  · rw [if_neg hb, if_neg hb]
    dsimp only
    rcases initPlain (lowerB (split2 line []).1) ((split2 line []).2.getD []) with _ | c | m
    · exact .inl ⟨_, [], rfl⟩
    · exact .inr (.inl ⟨c, rfl, rfl⟩)
    · exact .inl ⟨m, [], rfl⟩

/-- **line_no_crash.** Whatever the request line is and whatever `encoding/json` makes of it, in
every state of the unit index, handling it neither panics nor blocks: it produces reply lines (or
hands the connection to a command that was accepted). -/
theorem line_no_crash (u : Units) (line : Bytes) (jv : Option (List (Bytes × J))) :
    (handleLine allGuards u line jv).2.safe = true := by
  rcases handleLine_cases allGuards u line jv with ⟨_, _, h⟩ | ⟨c, h, _⟩ | ⟨_, hg⟩
  · rw [h]; rfl
  · rw [h]; exact runCmd_safe u c
  · cases hg

/-- **session_no_crash.** A whole session — any byte sequence, cut into request lines by the
reader — never ends in a panic or a wedge. -/
theorem session_no_crash (u : Units) (script : List (Bytes × Option (List (Bytes × J)))) :
    (runSession allGuards u script).2.2 = .eof ∨ (runSession allGuards u script).2.2 = .consumed := by
  induction script generalizing u with
  | nil => left; rfl
  | cons x rest ih =>
    obtain ⟨line, jv⟩ := x
    have h := line_no_crash u line jv
    unfold runSession
    generalize handleLine allGuards u line jv = r at h
    obtain ⟨u', o⟩ := r
    cases o with
    | replies l => simp only; exact ih u'
    | consumed l => right; rfl
    | panic | hang => cases h

/-- **invalid_gets_error.** A non-empty request line that is not carried out as a command is
answered — with at least one line, and every line of the answer starts with `ERROR` — the unit
index is untouched and the session goes on reading. -/
theorem invalid_gets_error (u : Units) (line : Bytes) (jv : Option (List (Bytes × J)))
    (hinv : validRequest allGuards line jv = false) :
    ∃ l, handleLine allGuards u line jv = (u, .replies l) ∧ l ≠ [] ∧ ∀ r ∈ l, r.isErr = true := by
  rcases handleLine_cases allGuards u line jv with ⟨m, ms, h⟩ | ⟨c, h, hv⟩ | ⟨_, hg⟩
  · exact ⟨_, h, List.cons_ne_nil _ _, fun r hr => by obtain ⟨_, _, rfl⟩ := List.mem_map.mp hr; rfl⟩
  · -- a command that is not carried out is the unknown `work` subcommand, answered "bad command"
    have : c = .workBad := by simpa [hv] using hinv
    rw [h, this]
    exact ⟨[_], rfl, nofun, fun r hr => by rw [List.mem_singleton.mp hr]; rfl⟩
  · cases hg

/-- **garbage_then_valid.** Requests that are not carried out only add their `ERROR` lines in front:
the rest of the session — and, through the untouched unit index, every other session — gets
exactly the answers it would have got without them. -/
theorem garbage_then_valid (u : Units) (g rest : List (Bytes × Option (List (Bytes × J))))
    (hg : ∀ x ∈ g, validRequest allGuards x.1 x.2 = false) :
    ∃ errs, (∀ r ∈ errs, r.isErr = true) ∧ g.length ≤ errs.length ∧
      runSession allGuards u (g ++ rest) =
        ((runSession allGuards u rest).1, errs ++ (runSession allGuards u rest).2.1, (runSession allGuards u rest).2.2) := by
  induction g with
  | nil => exact ⟨[], by simp, Nat.le_refl _, rfl⟩
  | cons x g ih =>
    obtain ⟨line, jv⟩ := x
    obtain ⟨hx, hg⟩ := List.forall_mem_cons.mp hg
    obtain ⟨l, hl, hne, herr⟩ := invalid_gets_error u line jv hx
    obtain ⟨errs, he, hlen, hrun⟩ := ih hg
    refine ⟨l ++ errs, ?_, ?_, ?_⟩
    · exact fun r hr => (List.mem_append.mp hr).elim (herr r) (he r)
    · have := List.length_pos_iff.mpr hne
      simp only [List.length_cons, List.length_append]; omega
    · show runSession allGuards u ((line, jv) :: (g ++ rest)) = _
      rw [runSession, hl]
      simp only
      rw [hrun]
      simp [List.append_assoc]

/-- **sessions_isolated.** A session made only of requests that are not carried out ends normally
and leaves the unit index exactly as it found it. -/
theorem sessions_isolated (u : Units) (g : List (Bytes × Option (List (Bytes × J))))
    (hg : ∀ x ∈ g, validRequest allGuards x.1 x.2 = false) :
    (runSession allGuards u g).1 = u ∧ (runSession allGuards u g).2.2 = .eof := by
  obtain ⟨errs, _, _, h⟩ := garbage_then_valid u g [] hg
  rw [List.append_nil] at h
  rw [h]
  exact ⟨rfl, rfl⟩

/-! ### The line reader -/

theorem splitLF_clean (input cur : Bytes) (hc : ∀ c ∈ cur, c ≠ 10 ∧ c ≠ 13) :
    ∀ l ∈ splitLF input cur, ∀ c ∈ l, c ≠ 10 ∧ c ≠ 13 := by
  fun_induction splitLF input cur with
  | case1 cur => exact List.forall_mem_singleton.mpr fun c h => hc c (List.mem_reverse.mp h)
  | case2 rest cur ih => exact List.forall_mem_cons.mpr ⟨fun c h => hc c (List.mem_reverse.mp h), ih nofun⟩
  | case3 rest cur _ ih => exact ih hc
  | case4 c rest cur h1 h2 ih => exact ih (List.forall_mem_cons.mpr ⟨⟨h1, h2⟩, hc⟩)

/-- **reader_lines.** For every input byte sequence the reader hands on only non-empty lines
without line terminators — whatever the bytes are (over-long, unterminated, binary). -/
theorem reader_lines (input : Bytes) : ∀ l ∈ requestLines input, l ≠ [] ∧ ∀ c ∈ l, c ≠ 10 ∧ c ≠ 13 := by
  intro l hl
  unfold requestLines at hl
  have ⟨h1, h2⟩ := List.mem_filter.mp hl
  exact ⟨by simpa using h2, splitLF_clean input [] nofun l h1⟩

/-! ### The two defects found with this model (both repaired in /repo; see KNOWN_FINDINGS) -/

/-- `b` of a string literal, character by character (see `Proofs/Utf8.lean` for why).  `rw` finds the literals because
a literal unifies with `String.ofList _` (`simp` does not: it looks terms up by their head).  Each `rw [b_ofList]`
removes every occurrence of one literal and brings in no application of `b`, so `repeat rw [b_ofList]` ends. -/
theorem b_ofList (l : List Char) : b (String.ofList l) = l.flatMap fun c => (String.utf8EncodeChar c).map (·.toNat) :=
  utf8_ofList l

/-- without the type check, `{"command":"status","requested_fields":null}` (or any non-array) panics -/
theorem C08_witness_status_fields :
    (handleLine { allGuards with statusFieldsTyped := false } { mem := [], disk := [], types := [] } (b "{\"command\":\"status\",\"requested_fields\":null}")
      (some [(b "command", .str (b "status")), (b "requested_fields", .null)])).2 = .panic := by
  repeat rw [b_ofList]
  decide +kernel

/-- with the read lock held across the rescan, `work status X` for a unit that exists on disk only wedges -/
theorem C08_witness_disk_only_unit :
    (handleLine { allGuards with findUnitUnlocked := false } { mem := [], disk := [b "X"], types := [] } (b "work status X") none).2 = .hang := by
  repeat rw [b_ofList]
  decide +kernel

/-- Non-vacuity: a session with garbage, a valid command, garbage again -/
example :
    (runSession allGuards { mem := [b "u1"], disk := [b "d1"], types := [] }
      [(b "\u0001\u0002", none), (b "{\"command\":5}", some [(b "command", .num true)]), (b "work status d1", none),
       (b "WORK release u1 extra", none), (b "work release u1", none), (b "work status u1", none)]).2
      = ([.err (some (b "Unknown command")), .err (some (b "command must be a string")), .err (some (b "Unknown command")),
          .json, .err (some (b "work release does not take parameters after the unit ID")), .json, .err none], .eof) := by
  repeat rw [b_ofList]
  decide +kernel


/-- **Tie (translator)**: no lock is left held on a return path — in every block of every function of `pkg/controlsvc` and
`pkg/workceptor`, a `Lock()` / `RLock()` statement is followed in its block by the matching `Unlock` (plain or deferred)
before any `return` that is not itself preceded by that `Unlock`.  (A lock left held on one path wedges every later command
that needs it: `no_control_command_deadlock` is about threads that wait for locks whose holders go on to release them.) -/
theorem C08_facts_no_lock_left_held : Receptor.Facts.lock_leaks = [] := rfl

/-- **Tie (translator)**: the guards, the reader loop, the dispatch, the command table and the
messages of every built-in command's parser; `reload` runs under one mutex (its state is shared by all
sessions: without it concurrent reloads abort the process — found by the harness, repaired in /repo). -/
theorem C08_facts :
    Receptor.Facts.ctl_status_fields_checked = true
    ∧ Receptor.Facts.ctl_findunit_rescan_unlocked = true
    ∧ Receptor.Facts.ctl_reload_serialised = true
    ∧ Receptor.Facts.ctl_reader = "err == io.EOF:break;n == 1:…;buf[0] == '\\r':continue;buf[0] == '\\n':break;len(cmdBytes) == 0:continue"
    ∧ Receptor.Facts.ctl_dispatch = "cmdBytes[0] == '{';json-error:falls-through;strings.SplitN(string(cmdBytes), \" \", 2);strings.ToLower(tokens[0]);unknown:\"ERROR: Unknown command\\n\""
    ∧ Receptor.Facts.ctl_table = "\"ping\"=&PingCommandType{};\"status\"=&StatusCommandType{};\"connect\"=&ConnectCommandType{};\"traceroute\"=&TracerouteCommandType{};\"reload\"=&ReloadCommandType{}"
    ∧ Receptor.Facts.ctl_msgs = ["ping.s=no ping target", "ping.j=no ping target", "ping.j=ping target must be string",
        "status.s=status command does not take parameters", "status.j=requested_fields must be a list of strings",
        "status.j=each element of requested_fields must be a string", "connect.s=no connect target", "connect.s=too many parameters",
        "connect.j=no connect target node", "connect.j=connect target node must be string", "connect.j=no connect target service",
        "connect.j=connect target service must be string", "connect.j=connect tls name must be string", "traceroute.s=no traceroute target",
        "traceroute.j=no traceroute target", "traceroute.j=traceroute target must be string", "work.s=no work subcommand",
        "work.s=work submit requires a target node and work type", "work.s=work %s requires a unit ID",
        "work.s=work %s does not take parameters after the unit ID", "work.s=work results requires a unit ID",
        "work.s=work results only takes a unit ID and optional start position", "work.s=error converting start position to integer: %s",
        "work.j=submit parameters must all be strings and %s is not", "str=field %s missing", "str=field %s must be a string",
        "int=field %s missing", "int=field %s value %s is not convertible to an int"] :=
  ⟨rfl, rfl, rfl, rfl, rfl, rfl, rfl⟩

/-- **Tie (translator)**: the accept loop hands every accepted connection to a goroutine of its own at once; nothing that can
wait (a TLS handshake, a read) runs in the loop itself, so no client can keep others from being accepted. -/
theorem C08_accept_facts : Receptor.Facts.ctl_accept_loop = "accept;go:s.SetupConnection" := rfl

end Receptor.Ctl

/-! ## No wedge: the lock order of the code that serves control commands -/
namespace Receptor.LockOrder

/-- **no_wait_cycle.** If every lock a thread requests ranks above every lock it holds, no set of
threads waits for each other: there is no deadlock among these locks, under any schedule and for
any number of threads. -/
theorem no_wait_cycle (rank : String → Nat) (ths : List Thread)
    (hord : ∀ t ∈ ths, ∀ h ∈ t.held, rank h < rank t.want) : ¬ Deadlocked ths := by
  intro ⟨hne, hdl⟩
  -- a thread whose request ranks highest waits for a lock held by one whose request ranks higher still
  cases hm : (ths.map fun t => rank t.want).max? with
  | none => exact hne (by simpa using hm)
  | some m =>
    obtain ⟨hmem, hmax⟩ := List.max?_eq_some_iff.mp hm
    obtain ⟨t, ht, rfl⟩ := List.mem_map.mp hmem
    obtain ⟨u, hu, hw⟩ := hdl t ht
    have h1 := hord u hu t.want hw
    have h2 := hmax _ (List.mem_map_of_mem hu)
    omega

/-- the order the locks of pkg/workceptor and pkg/controlsvc are taken in -/
def lockOrder : List String :=
  ["Server.controlFuncLock", "reloadLock", "BaseWorkUnit.statusLock", "Workceptor.activeUnitsLock", "Workceptor.workTypesLock",
   "BaseWorkUnit.lastUpdateErrorLock", "statusFileLock", "KubeAPIWrapperLock"]

/-- requests that go against the order and cannot be part of a cycle, each for a stated reason -/
def exemptEdges : List Edge :=
  [ -- AllocateUnit saves the unit it has just created while holding the index lock: the unit's status lock is
    -- not reachable by any other thread yet (the unit is entered into the index afterwards)
    { src := "Workceptor.activeUnitsLock", dst := "BaseWorkUnit.statusLock", site := "Workceptor.AllocateUnit" },
    -- RegisterWorker runs while the configuration is applied, before the control service accepts sessions;
    -- it is not reachable from a control command
    { src := "Workceptor.activeUnitsLock", dst := "BaseWorkUnit.statusLock", site := "Workceptor.RegisterWorker" } ]

def sourceEdges : List Edge := zipEdges Receptor.Facts.lock_from Receptor.Facts.lock_to Receptor.Facts.lock_at

/-- **Tie (translator)**: every lock request the source can make while holding another lock goes
upwards in `lockOrder` (apart from the two exempt sites). -/
theorem C08_lock_order : respects lockOrder exemptEdges sourceEdges = true := by decide +kernel

/-- **no_control_command_deadlock.** Threads whose requests are among the (non-exempt) requests the
source can make never wait for each other in a cycle. -/
theorem no_control_command_deadlock (ths : List Thread)
    (hsrc : ∀ t ∈ ths, ∀ h ∈ t.held, ∃ e ∈ sourceEdges, e ∉ exemptEdges ∧ e.src = h ∧ e.dst = t.want) : ¬ Deadlocked ths := by
  apply no_wait_cycle (rankIn lockOrder)
  intro t ht h hh
  obtain ⟨e, he, hne, h1, h2⟩ := hsrc t ht h hh
  have hr := C08_lock_order
  unfold respects at hr
  have := List.all_eq_true.mp hr e he
  simp only [Bool.or_eq_true, Bool.and_eq_true, decide_eq_true_eq] at this
  rcases this with hx | hx
  · exact absurd (by simpa using hx) hne
  · rw [← h1, ← h2]; exact hx.2

/-- the order is not vacuous: the release path (status lock, then the index lock) is in it, and the reverse
request is refused -/
example : respects lockOrder [] [{ src := "BaseWorkUnit.statusLock", dst := "Workceptor.activeUnitsLock", site := "BaseWorkUnit.Release" }] = true
    ∧ respects lockOrder [] [{ src := "Workceptor.activeUnitsLock", dst := "BaseWorkUnit.statusLock", site := "x" }] = false
    ∧ respects lockOrder [] [{ src := "Workceptor.activeUnitsLock", dst := "Workceptor.activeUnitsLock", site := "Workceptor.findUnit" }] = false := by
  decide +kernel

end Receptor.LockOrder

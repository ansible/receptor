import Receptor.Model.Verify
import Receptor.Generated.Facts
/-!
# C09 — TLS peers need a trusted chain, a matching pin and the expected node ID
-/
namespace Receptor.Verify

/-- **Tie (translator)**: the supported pin lengths, the order parse → pins → chain → receptor
name in `ReceptorVerifyFunc` (each failure returns an error), the role key usages, what
`GetClientTLSConfig` installs per mode, and the expression the stream listener derives the
expected client name from; the verifier is a closure that keeps nothing between handshakes and reads the
clock at each of them, compares the pins with the digest of the leaf only; a server profile that requires a
client certificate asks for `RequireAndVerifyClientCert` whatever else is configured, and the stream listener
binds the client name exactly in that case, running the profile's own verifier (with its pins) first. -/
theorem C09_facts :
    Receptor.Facts.rvf_pin_lengths = "28,32,48,64"
    ∧ Receptor.Facts.rvf_steps = "parse,pins,chain,name"
    ∧ Receptor.Facts.rvf_usages = "VerifyServer:ExtKeyUsageServerAuth;VerifyClient:ExtKeyUsageClientAuth"
    ∧ Receptor.Facts.rvf_name_rule = "expectedHostnameType == ExpectedHostnameTypeReceptor;!found:ReceptorCertNameError"
    ∧ Receptor.Facts.rvf_name_compare = "receptorName == expectedHostname"
    ∧ Receptor.Facts.tls_client_cfg = "!tlscfg.InsecureSkipVerify:VerifyPeerCertificate;DNS:ServerName;Receptor:InsecureSkipVerify"
    ∧ Receptor.Facts.tls_listener_expected = "strings.Split(hi.Conn.RemoteAddr().String(), \":\")[0];ExpectedHostnameTypeReceptor;VerifyClient"
    ∧ Receptor.Facts.rvf_closure = "single-return-closure;CurrentTime:time.Now()x2;empty-chain:refused"
    ∧ Receptor.Facts.rvf_pin_subject = "certs[0].Raw"
    ∧ Receptor.Facts.tls_server_clientauth = "cfg.RequireClientCert:RequireAndVerifyClientCert;cfg.ClientCAs != \"\":VerifyClientCertIfGiven;default:NoClientCert;assignments:3"
    ∧ Receptor.Facts.tls_listener_bind_when = "tlscfg.ClientAuth == tls.RequireAndVerifyClientCert"
    ∧ Receptor.Facts.tls_listener_pins = "chained-with-profile-verifier"
    ∧ Receptor.Facts.tls_client_cfg_clone = "clone-before-first-write;returns:tlscfg" :=
  ⟨rfl, rfl, rfl, rfl, rfl, rfl, rfl, rfl, rfl, rfl, rfl, rfl, rfl⟩

/-- **accept_iff.** The connection is accepted exactly when the certificate parses, the pin rule
is satisfied, it chains to the configured authority, is currently valid, is usable for the
peer's role, and the name rule holds. -/
theorem accept_iff (c : Cfg) (p : Peer) :
    decide c p = true ↔
      p.parsed = true ∧ pinOK c.pins p.digest = true ∧ p.chainOK = true ∧ p.validNow = true
        ∧ usageOK c.role p = true ∧ nameOK c p = true := by
  simp [decide, and_assoc]

/-- **any_single_failure_refuses.** Failure of any single condition refuses the connection,
whatever the other conditions are. -/
theorem any_single_failure_refuses (c : Cfg) (p : Peer)
    (h : p.parsed = false ∨ pinOK c.pins p.digest = false ∨ p.chainOK = false ∨ p.validNow = false
          ∨ usageOK c.role p = false ∨ nameOK c p = false) :
    decide c p = false := by
  rcases h with h | h | h | h | h | h <;> simp [decide, h]

/-- the pin rule spelled out -/
theorem pin_rule (pins : List Bytes) (digest : Nat → Bytes) :
    pinOK pins digest = true ↔
      pins = [] ∨ ((∀ p ∈ pins, supportedLen p.length = true) ∧ ∃ p ∈ pins, p = digest p.length) := by
  simp only [pinOK, Bool.or_eq_true, Bool.and_eq_true, List.isEmpty_iff, List.all_eq_true, List.any_eq_true,
    beq_iff_eq]

/-- a pin of unsupported length anywhere in the list refuses the peer, even next to a matching pin -/
theorem unsupported_pin_refuses (c : Cfg) (p : Peer) (bad : Bytes) (hb : bad ∈ c.pins)
    (hl : supportedLen bad.length = false) : decide c p = false := by
  apply any_single_failure_refuses
  right; left
  rw [Bool.eq_false_iff]
  intro h
  rcases (pin_rule _ _).1 h with h0 | ⟨hall, _⟩
  · rw [h0] at hb; cases hb
  · rw [hall bad hb] at hl; cases hl

/-- **receptor name rule**: in receptor mode the expected node ID must be one of the
certificate's receptor names, compared exactly; a certificate without receptor names (DNS
only) or with other IDs is refused. -/
theorem receptor_name_required (c : Cfg) (p : Peer) (hm : c.mode = .receptor) :
    nameOK c p = true ↔ ∃ l, p.names = some l ∧ c.expected ∈ l := by
  simp only [nameOK, hm]
  cases p.names <;> simp

/-- **client_bound_to_source.** For a mutually authenticated stream listener the name checked
is the node the packets claim to come from — provided the node ID contains no colon (the
listener cuts the printed address `node:service` at the first colon). -/
theorem client_bound_to_source (node svc : Bytes) (h : ∀ b ∈ node, b ≠ 58) :
    expectedClientName node svc = node := by
  unfold expectedClientName
  rw [List.takeWhile_append_of_pos (by intro x hx; simpa using h x hx)]
  simp

/-- Witness of the excluded point: a node ID containing a colon is checked against its prefix
only, so its own certificate (naming the full ID) does not satisfy the listener. -/
theorem C09_witness_colon : expectedClientName [97, 58, 98] [115] = [97] := by decide

/-- Non-vacuity: a fully admissible peer is accepted; flipping one condition refuses it. -/
def exPeer : Peer :=
  { parsed := true, chainOK := true, validNow := true, usageServer := true, usageClient := false, dnsOK := false,
    names := some [[110, 49]], digest := fun n => List.replicate n 7 }
example : decide { pins := [List.replicate 32 7], expected := [110, 49], mode := .receptor, role := .server } exPeer = true := by
  decide
example : decide { pins := [List.replicate 32 7], expected := [110, 49], mode := .receptor, role := .client } exPeer = false := by
  decide

/-- **only_the_leaf_counts.** Appending certificates to the presented chain — a copy of a pinned certificate, of
another node's certificate — never turns a refused peer into an accepted one: the verdict is the verdict on the leaf. -/
theorem only_the_leaf_counts (c : Cfg) (leaf : Peer) (extras extras' : List Peer) :
    decideChain c (leaf :: extras) = decideChain c (leaf :: extras') ∧ decideChain c (leaf :: extras) = decide c leaf :=
  ⟨rfl, rfl⟩

/-- **required_client_cert_binds_source.** On a listener whose profile requires a client certificate — with or
without a `clientcas` bundle — a stream is established only with a certificate that chains, is valid, is usable by
a client and names the node the packets come from: a node cannot present another node's identity, nor none. -/
theorem required_client_cert_binds_source (hasCAs : Bool) (source : Bytes) (cert : Option Peer)
    (h : established true hasCAs source cert = true) :
    ∃ p, cert = some p ∧ p.parsed = true ∧ p.chainOK = true ∧ p.validNow = true ∧ p.usageClient = true
      ∧ ∃ l, p.names = some l ∧ source ∈ l := by
  cases cert with
  | none => cases h
  | some p =>
    have h2 : decide { pins := [], expected := source, mode := .receptor, role := .client } p = true :=
      (Bool.and_eq_true_iff.mp h).2
    obtain ⟨h1, _, h3, h4, h5, h6⟩ := (accept_iff _ p).mp h2
    exact ⟨p, rfl, h1, h3, h4, h5, (receptor_name_required _ p rfl).mp h6⟩

/-- the listener binds the client name whenever the profile requires a client certificate -/
theorem require_implies_binding (hasCAs : Bool) : listenerBindsClientName (serverClientAuth true hasCAs) = true := by
  cases hasCAs <;> rfl

/-- Witness of the variant in which a `clientcas` bundle downgrades the requirement: another node's (trusted)
certificate opens a stream. -/
theorem C09_witness_downgrade :
    let other : Peer := { parsed := true, chainOK := true, validNow := true, usageServer := true, usageClient := true, dnsOK := false,
                          names := some [[110, 51]], digest := fun _ => [] }
    established true true [110, 50] (some other) = false ∧ established false true [110, 50] (some other) = true := by
  decide

/-- **pinned_client_cert_enforced.** A server profile that pins client certificates: on a stream listener that
requires a client certificate (the per-connection verifier keeping the profile's pins) and on one that verifies offered
certificates, a stream is established only with a certificate whose digest is one of the pins. -/
theorem pinned_client_cert_enforced (require hasCAs : Bool) (hv : require = true ∨ hasCAs = true) (source : Bytes) (p : Peer)
    (pins : List Bytes) (hp : pins ≠ [])
    (h : established require hasCAs source (some p) pins true = true) :
    ∃ pin ∈ pins, pin = p.digest pin.length := by
  have hd : decide { pins := pins, expected := [], mode := .dns, role := .client } p = true := by
    cases require with
    | true => exact (Bool.and_eq_true_iff.mp h).1
    | false =>
      cases hasCAs with
      | true => exact h
      | false => cases hv <;> contradiction
  rcases (pin_rule _ _).mp ((accept_iff _ p).mp hd).2.1 with h0 | ⟨_, h1⟩
  · exact absurd h0 hp
  · exact h1

/-- Witness of the variant in which the listener's per-connection verifier drops the profile's pins: a trusted
certificate for the right node that is *not* pinned opens a stream. -/
theorem C09_witness_pins_dropped :
    let own : Peer := { parsed := true, chainOK := true, validNow := true, usageServer := true, usageClient := true, dnsOK := false,
                        names := some [[110, 50]], digest := fun n => List.replicate n 7 }
    established true true [110, 50] (some own) [List.replicate 32 9] true = false
    ∧ established true true [110, 50] (some own) [List.replicate 32 9] false = true := by
  decide

end Receptor.Verify

import Receptor.Proofs.Forward
import Receptor.Generated.Facts
/-!
# C10 — hop limit bounds forwarding; reach iff distance ≤ hops; expiry is reported
-/
namespace Receptor.Forward

/-- the hop rule the source currently implements (regenerated facts) -/
def hopsOfFacts : HopRule :=
  { expireAt := if Receptor.Facts.fwd_expire_test = "HopsToLive <= 0" then 0 else 999999,
    decrement := Receptor.Facts.fwd_decrement,
    noticeGuard := Receptor.Facts.fwd_notice_guard,
    pingGuard := Receptor.Facts.proto_ping_guard }

/-- **Tie (translator)**: `forwardMessage` expires at `HopsToLive <= 0`, decrements the TTL
byte by one after that test and before the send, and guards notices by
`FromService != "unreach"`; the default budget of notices and ping replies is
`maxForwardingHops`; a ping listens for notices before it sends (a notice can be produced inside the send). -/
theorem C10_facts : hopsOfFacts = stdHops ∧ Receptor.Facts.fwd_order = "expire-test,route,conn,encode,decrement,send"
    ∧ Receptor.Facts.fwd_sendmessage_budget = "s.maxForwardingHops"
    ∧ Receptor.Facts.ping_order = "ListenPacket<SetHopsToLive<SubscribeUnreachable<WriteTo" :=
  ⟨by simp [hopsOfFacts, stdHops, Facts.fwd_expire_test, Facts.fwd_decrement, Facts.fwd_notice_guard,
      Facts.proto_ping_guard], rfl, rfl, rfl⟩

/-- **forward_bound.** A datagram sent with hop budget `h` is relayed at most `h` times,
for every assignment of routing tables, connections, firewalls and listeners to every
node — in particular through routing loops. -/
theorem forward_bound (net : Net) (fuel h : Nat) (src : Node) (p : Packet) (hh : h < 256) :
    (walk stdHops net fuel h src p).1.length ≤ h :=
  walk_length_le net fuel h src p hh

/-- enough fuel is never exhausted: the exploration bound is not what stops the packet -/
theorem route_links_le (net : Net) (src : Node) (p : Packet) (hh : p.ttl < 256) :
    (route net src p).1.length ≤ p.ttl := walk_length_le net _ _ src p hh

/-- **reach_iff.** With tables giving a route of `d` links to the destination, where the
destination listens on the addressed (non-reserved) service and accepts the packet, the
datagram is delivered exactly when `d ≤ h`. -/
theorem reach_iff (net : Net) (p : Packet) (v0 : Node) (vs : List Node)
    (hr : IsRoute net p (v0 :: vs)) (hh : p.ttl < 256)
    (hfw : (net p.toNode).fw p.fromNode p.fromSvc p.toNode p.toSvc = .accept)
    (hsvc : p.toSvc ≠ pingSvc ∧ p.toSvc ≠ unreachSvc) (hl : (net p.toNode).listener p.toSvc = true) :
    (route net v0 p).2.2 = .delivered ↔ vs.length ≤ p.ttl := by
  constructor
  · intro hd
    refine Nat.le_of_not_lt fun hlt => ?_
    obtain ⟨vt, _, hw⟩ := walk_expire hr hlt hh
    -- the node where the budget runs out reports expiry (or stays silent): it does not deliver
    rw [route, hw] at hd
    split at hd <;> cases hd
  · intro hle
    rw [route, walk_route hr hle hh,
      (handle_eq_delivered (p := { p with ttl := p.ttl - vs.length })).mpr ⟨hfw, rfl, hsvc.1, hsvc.2, hl⟩]

/-- **expiry_reporter.** When the route is longer than the budget, the packet stops at the
node `h` links along the route, and that node — nobody else — originates the
"message expired" notice, addressed to the packet's source and echoing its addresses. -/
theorem expiry_reporter (net : Net) (p : Packet) (v0 : Node) (vs : List Node)
    (hr : IsRoute net p (v0 :: vs)) (hh : p.ttl < 256) (hlt : p.ttl < vs.length)
    (hn : p.fromSvc ≠ unreachSvc) :
    ∃ vt, (v0 :: vs)[p.ttl]? = some vt ∧
      (route net v0 p).1 = links ((v0 :: vs).take (p.ttl + 1)) ∧
      (route net v0 p).2 = (vt, .spawn
        { fromNode := vt, fromSvc := unreachSvc, toNode := p.fromNode, toSvc := unreachSvc,
          ttl := (net vt).maxHops,
          body := .notice { fromNode := p.fromNode, toNode := p.toNode, fromSvc := p.fromSvc,
                            toSvc := p.toSvc, problem := .expired } }) := by
  obtain ⟨vt, hvt, hw⟩ := walk_expire hr hlt hh
  have hn' : isNotice stdHops p = false := by simp [isNotice, hn]
  rw [hn'] at hw
  exact ⟨vt, hvt, congrArg Prod.fst hw, congrArg Prod.snd hw⟩

/-- **traceroute_path.** Pinging with budgets `0, 1, …, d` stops at the route's nodes
`v0, v1, …, vd` in order: each budget `i < d` expires at `v_i`, budget `d` reaches the
target. -/
theorem traceroute_path (net : Net) (p : Packet) (v0 : Node) (vs : List Node)
    (hr : IsRoute net p (v0 :: vs)) (i : Nat) (hi : i ≤ vs.length) (h256 : i < 256) :
    (v0 :: vs)[i]? = some (route net v0 { p with ttl := i }).2.1 := by
  have hr' := isRoute_ttl (t := i) hr
  rw [route]
  by_cases hlt : i < vs.length
  · obtain ⟨vt, hvt, hw⟩ := walk_expire hr' hlt h256
    rw [hw]
    exact hvt
  · obtain rfl : i = vs.length := Nat.le_antisymm hi (Nat.le_of_not_lt hlt)
    rw [walk_route hr' (Nat.le_refl _) h256]
    simp [List.getLast_eq_getElem]

/-- **notice_terminates.** Nothing a node does with an unreachable notice (a packet from
service "unreach" to service "unreach") originates another packet — whether the notice is
delivered, relayed, rejected by a firewall or itself expires — so notices cannot multiply. -/
theorem notice_terminates (me : Node) (cfg : NodeCfg) (p : Packet)
    (hp : p.fromSvc = unreachSvc) (ht : p.toSvc = unreachSvc) :
    ∀ q, handle stdHops me cfg p ≠ .spawn q := by
  intro q
  have hn : isNotice stdHops p = true := by simp [isNotice, stdHops, hp]
  cases hfw : cfg.fw p.fromNode p.fromSvc p.toNode p.toSvc with
  | drop => rw [handle_drop hfw]; nofun
  | reject => rw [handle_reject hfw, hn]; nofun
  | accept =>
    by_cases hto : p.toNode = me
    · -- a notice for this node is published (or malformed)
      rw [handle_local hfw hto, ht, if_neg (by decide), if_pos rfl]
      split <;> nofun
    · -- a notice in transit expires silently, is relayed, or fails with an error
      rw [handle_transit hfw hto, hn, if_pos rfl]
      cases cfg.route p.toNode <;> simp [ite_eq_iff']

/-- Non-vacuity: a three-node chain a — b — c with the obvious tables is a route of two
links for a packet from a to c; budget 2 delivers, budget 1 expires at b. -/
def exNet : Net := fun v =>
  { route := fun d => if v = [1] ∧ d = [3] then some [2] else if v = [2] ∧ d = [3] then some [3] else none,
    conn := fun _ => true, listener := fun s => s = [9], fw := fun _ _ _ _ => .accept, maxHops := 30 }
def exPkt (h : Nat) : Packet :=
  { fromNode := [1], toNode := [3], fromSvc := [8], toSvc := [9], ttl := h, body := .raw [42] }

example : IsRoute exNet (exPkt 2) [[1], [2], [3]] := by decide
example : (route exNet [1] (exPkt 2)).2 = ([3], .delivered) := by decide
example : (route exNet [1] (exPkt 1)).2.1 = [2] := by decide


/-- **zero_budget_reported_at_origin.** A datagram sent with budget 0 to another node runs out at the node that
sends it: that node originates the "message expired" notice, addressed to itself, and publishes it to its own
sockets within the same call — which is why a ping has to listen for notices before it sends. -/
theorem zero_budget_reported_at_origin (me : Node) (cfg : NodeCfg) (p : Packet)
    (hfrom : p.fromNode = me) (hto : p.toNode ≠ me) (httl : p.ttl = 0) (hsvc : p.fromSvc ≠ unreachSvc)
    (hfw : cfg.fw p.fromNode p.fromSvc p.toNode p.toSvc = .accept)
    (hfwn : cfg.fw me unreachSvc me unreachSvc = .accept) :
    observe stdHops me cfg 2 p =
      [(p, .spawn (mkNotice me cfg p .expired)),
       (mkNotice me cfg p .expired,
        .published { fromNode := me, toNode := p.toNode, fromSvc := p.fromSvc, toSvc := p.toSvc, problem := .expired })] := by
  subst hfrom
  have hnotice : isNotice stdHops p = false := by simp [isNotice, hsvc]
  have h1 : handle stdHops p.fromNode cfg p = .spawn (mkNotice p.fromNode cfg p .expired) := by
    rw [handle_transit hfw hto, httl, if_pos (Nat.zero_le _), hnotice]
    rfl
  have h2 : handle stdHops p.fromNode cfg (mkNotice p.fromNode cfg p .expired) =
      .published { fromNode := p.fromNode, toNode := p.toNode, fromSvc := p.fromSvc, toSvc := p.toSvc,
                   problem := .expired } :=
    (handle_local (p := mkNotice p.fromNode cfg p .expired) hfwn rfl).trans rfl
  simp only [observe, h1, h2]


end Receptor.Forward

import Receptor.Proofs.Proto
import Receptor.Proofs.Flood
import Receptor.Generated.Facts
/-!
# C11 — only admissible peers stay connected: allow-list, identity, cost, one per ID
-/
namespace Receptor.Proto

/-- **Tie (translator)**: the pre-establishment checks and their order (empty ID, own ID,
allow-list, per-node cost, already-connected test and registration under one `connLock`
critical section), the post-establishment checks, and `removeConnection` on every exit of a
registered session. -/
theorem C11_facts :
    Receptor.Facts.adm_empty_id_guard = true ∧ Receptor.Facts.adm_remove_on_all_exits = true
    ∧ Receptor.Facts.adm_checks = "empty-id,own-id,allowed-peers,node-cost,lock,already-connected,register,unlock"
    ∧ Receptor.Facts.adm_post_checks = "ri.ForwardingNode != remoteNodeID:remove,reject;ri.NodeID == remoteNodeID;!ok:remoteEstablished:remove,reject;remoteCost != connectionCost:remove,reject"
    ∧ Receptor.Facts.adm_done_exit = "s.removeConnection(remoteNodeID);return nil" :=
  ⟨rfl, rfl, rfl, rfl, rfl⟩

/-- **established_admissible.** A session becomes an established connection only if the peer's
announced node ID is non-empty, on the allow-list (when one is set), different from the local
ID and not already connected; the link cost is the per-node override or the backend's. -/
theorem established_admissible (B : Backend) (sh : Shared) (s : Sess) (ru : RU)
    (h : (admitPeer allGuards B sh s ru).2.2 = .established) :
    ru.fwd ≠ [] ∧ ru.fwd ≠ sh.self ∧ (∀ l, B.allowed = some l → ru.fwd ∈ l) ∧ ru.fwd ∉ sh.connections
      ∧ (admitPeer allGuards B sh s ru).2.1.remoteID = ru.fwd
      ∧ (admitPeer allGuards B sh s ru).2.1.cost = (lookup B.nodeCost ru.fwd).getD B.cost
      ∧ (admitPeer allGuards B sh s ru).1.connections = sh.connections ++ [ru.fwd] := by
  rcases admitPeer_cases allGuards B sh s ru with ⟨_, h1⟩ | ⟨hs, he, ha, hc, h1⟩
  · rw [h1] at h; cases h
  · rw [h1]
    refine ⟨he rfl, hs, ?_, hc, rfl, rfl, rfl⟩
    intro l hl
    simpa [notAllowed, hl] using ha

/-- the only way a session gets established is the handshake decision -/
theorem established_only_by_admit (G : Guards) (B : Backend) (sh : Shared) (s : Sess) (d : Dgram)
    (h : (step G B sh s d).2.2 = .established) :
    s.established = false ∧ ∃ body ru, d = .route body ∧ decodeRU body = some ru ∧ step G B sh s d = admitPeer G B sh s ru := by
  rcases step_cases G B sh s d with h' | ⟨o, h', ho, _⟩ | h' | ⟨ru, _, h'⟩ | ⟨body, ru, hd, hr, he, h'⟩
  · rw [h'] at h; cases h
  · rw [h'] at h; cases h; cases ho
  · rw [h'] at h; cases h
  · rw [h'] at h; rcases checkPeer_cases G sh s ru with ⟨_, h2⟩ | ⟨_, h2⟩ <;> rw [h2] at h <;> cases h
  · exact ⟨he, body, ru, hd, hr, h'⟩

/-- **rejected_leaves_nothing.** A session that is rejected at the handshake leaves the
connection table exactly as it was. -/
theorem rejected_leaves_nothing (G : Guards) (B : Backend) (sh : Shared) (s : Sess) (ru : RU) (r : Bool)
    (h : (admitPeer G B sh s ru).2.2 = .ended r) : (admitPeer G B sh s ru).1 = sh := by
  rcases admitPeer_cases G B sh s ru with ⟨h1, _⟩ | ⟨_, _, _, _, h1⟩
  · exact h1
  · rw [h1] at h; cases h

/-- **one_per_id.** The connection table never holds an ID twice, whatever the sessions
receive: the already-connected test and the registration are one atomic step. -/
theorem one_per_id (G : Guards) (B : Backend) (sh : Shared) (s : Sess) (d : Dgram)
    (hn : sh.connections.Nodup) : (step G B sh s d).1.connections.Nodup := by
  rcases step_shared G B sh s d with h | h | ⟨ru, h⟩ | ⟨id, hid, h⟩ <;> rw [h]
  · exact hn
  · exact removeConn_nodup _ _ hn
  · rw [poison_connections]; exact hn
  · exact List.nodup_append.mpr ⟨hn, by simp, fun a ha b hb => by
      rw [List.mem_singleton.mp hb]; exact fun e => hid (e ▸ ha)⟩

/-- **identity_change_disconnects / unlisted_disconnects / cost disagreement.** An established
peer that speaks under another ID, that stops listing the local node after having listed it,
or whose cost for the link differs, is disconnected: the session ends with a reject message
and its connection is forgotten. -/
theorem post_establishment_checks (G : Guards) (sh : Shared) (s : Sess) (ru : RU)
    (hbad : ru.fwd ≠ s.remoteID ∨
            (ru.nodeID = s.remoteID ∧ (ru.conns.bind fun l => lookup l sh.self) = none ∧ s.remoteEstablished = true) ∨
            (ru.nodeID = s.remoteID ∧ ∃ c, (ru.conns.bind fun l => lookup l sh.self) = some c ∧ c ≠ s.cost)) :
    (checkPeer G sh s ru).2.2 = .ended true ∧ (checkPeer G sh s ru).1 = removeConn sh s.remoteID := by
  unfold checkPeer
  rcases hbad with h | ⟨h1, h2, h3⟩ | ⟨h1, c, h2, h3⟩
  · simp [h]
  · by_cases hf : ru.fwd ≠ s.remoteID <;> simp [hf, h1, h2, h3]
  · by_cases hf : ru.fwd ≠ s.remoteID <;> simp [hf, h1, h2, h3]

/-- **session_end_forgets.** When a registered session ends — by a reject of either side, by a
failed check, or because its transport ended — its ID is no longer in the connection table. -/
theorem session_end_forgets (sh : Shared) (s : Sess) (hid : s.remoteID ≠ []) :
    s.remoteID ∉ (closeSession sh s).connections ∧ s.remoteID ∉ (removeConn sh s.remoteID).connections := by
  unfold closeSession removeConn
  simp [hid, List.mem_filter]

/-- Witness of the defect repaired by 19c5769: without the empty-ID check a peer announcing no
node ID was registered as connection "" — which `removeConnection` never removes. -/
theorem C11_witness_empty_id :
    let r := step { allGuards with emptyPeerID := false } { cost := 1000000, nodeCost := [], allowed := none }
      { self := n "me", connections := [] } {} (.route (some (.obj [(n "NodeID", .str (n "p"))])))
    r.2.2 = .established ∧ r.1.connections = [[]] ∧ (closeSession r.1 r.2.1).connections = [[]] := by
  decide +kernel

end Receptor.Proto

namespace Receptor.Flood

/-- **later_duplicate_shuts_down.** A node that receives a routing update naming itself as
origin and flagged as suspected duplicate of its own epoch shuts itself down. -/
theorem later_duplicate_shuts_down (R : StaleRule) (s : NodeState) (u : Update) (recv : Node) (fresh : UpdateID)
    (hne : s.id ≠ []) (h0 : u.nodeID = s.id) (he : u.epoch ≠ s.epoch) (hs : u.suspectedDuplicate = s.epoch) :
    (step R s u recv fresh).1.shutdown = true := by
  have h1 : u.nodeID ≠ [] := by rw [h0]; exact hne
  unfold step
  rw [if_neg h1, if_pos h0]
  simp [selfStep, he, hs]

/-- **earlier_survives.** The node with the earlier epoch, seeing its own ID with a newer epoch,
keeps running, keeps its picture of the network, and floods a notice naming the newer epoch
as the suspected duplicate (so that the later node is the one to stop). -/
theorem earlier_survives (R : StaleRule) (s : NodeState) (u : Update) (recv : Node) (fresh : UpdateID)
    (hne : s.id ≠ []) (h0 : u.nodeID = s.id) (hgt : u.epoch > s.epoch) (hs : u.suspectedDuplicate ≠ s.epoch)
    (hsd : s.shutdown = false) :
    (step R s u recv fresh).1.shutdown = false ∧ (step R s u recv fresh).1.known = s.known
      ∧ ∀ a ∈ (step R s u recv fresh).2, ∃ c w, a = .send c w ∧ w.nodeID = s.id ∧ w.suspectedDuplicate = u.epoch := by
  have h1 : u.nodeID ≠ [] := by rw [h0]; exact hne
  have h2 : u.epoch ≠ s.epoch := by omega
  unfold step
  rw [if_neg h1, if_pos h0]
  simp only [selfStep, h2, hs, hgt, if_false, if_true]
  unfold originate
  by_cases hc : s.conns.isEmpty = true
  · rw [if_pos hc]; exact ⟨hsd, rfl, by simp⟩
  · rw [if_neg hc]
    refine ⟨hsd, rfl, ?_⟩
    intro a ha
    obtain ⟨c, rfl, _⟩ := mem_floodTo ha
    exact ⟨c, _, rfl, rfl, rfl⟩

end Receptor.Flood

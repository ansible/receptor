import Receptor.Proofs.Regex
import Receptor.Generated.Facts
/-!
# C12 — firewall: the first matching rule decides; uninterpretable rules are refused
-/
namespace Receptor.Firewall

/-- **Tie (translator)**: pattern errors are propagated by `buildComp`/`BuildComps` to
`ParseFirewallRule`, a pattern must have both delimiting slashes (length ≥ 2), the regex is
wrapped as `^(?:…)$`, and `handleMessageData` runs the rule loop (first non-continue result
breaks; initial result accept; drop returns; reject notifies unless the packet is a notice)
before looking at the destination. -/
theorem C12_facts :
    Receptor.Facts.fw_errors_propagated = true ∧ Receptor.Facts.fw_regex_minlen = true
    ∧ Receptor.Facts.fw_regex_wrap = "^(?:%s)$"
    ∧ Receptor.Facts.fw_loop = "first-non-continue-breaks|accept:continue;drop:return;reject:notice-unless-unreach,return;"
    ∧ Receptor.Facts.fw_before_dispatch = true :=
  ⟨rfl, rfl, rfl, rfl, rfl⟩

theorem evalRules_append (w : Wrap) (pre rest : List Rule) (p : Addr) (h : ∀ x ∈ pre, x.matches w p = false) :
    evalRules w (pre ++ rest) p = evalRules w rest p := by
  induction pre with
  | nil => rfl
  | cons x xs ih =>
    rw [List.cons_append, evalRules, h x (by simp), if_neg nofun]
    exact ih fun y hy => h y (by simp [hy])

/-- **default_accept.** A packet no rule matches is accepted. -/
theorem default_accept (w : Wrap) (rs : List Rule) (p : Addr) (h : ∀ r ∈ rs, r.matches w p = false) :
    evalRules w rs p = .accept := by
  have := evalRules_append w rs [] p h
  rwa [List.append_nil] at this

/-- **first_match_decides.** The first rule that matches dictates the verdict, whatever
follows it. -/
theorem first_match_decides (w : Wrap) (pre : List Rule) (r : Rule) (post : List Rule) (p : Addr)
    (hpre : ∀ x ∈ pre, x.matches w p = false) (hr : r.matches w p = true) :
    evalRules w (pre ++ r :: post) p = r.action.verdict := by
  rw [evalRules_append w pre _ p hpre, evalRules, if_pos hr]

/-- … and these are the only two ways a verdict comes about. -/
theorem evalRules_cases (w : Wrap) (rs : List Rule) (p : Addr) :
    (evalRules w rs p = .accept ∧ ∀ r ∈ rs, r.matches w p = false) ∨
    ∃ pre r post, rs = pre ++ r :: post ∧ (∀ x ∈ pre, x.matches w p = false) ∧ r.matches w p = true
      ∧ evalRules w rs p = r.action.verdict := by
  cases hf : rs.find? (·.matches w p) with
  | none =>
    have h : ∀ r ∈ rs, r.matches w p = false := by simpa using hf
    exact .inl ⟨default_accept w rs p h, h⟩
  | some r =>
    obtain ⟨hr, pre, post, e, hpre⟩ := List.find?_eq_some_iff_append.mp hf
    have hpre' : ∀ x ∈ pre, x.matches w p = false := by simpa using hpre
    exact .inr ⟨pre, r, post, e, hpre', hr, e ▸ first_match_decides w pre r post p hpre' hr⟩

/-- **match_iff_all_fields.** A rule matches exactly when every field it gives matches the
packet's corresponding field (a field not given constrains nothing). -/
theorem match_iff_all_fields (w : Wrap) (r : Rule) (p : Addr) :
    r.matches w p = true ↔
      (∀ m, r.fromNode = some m → m.matches w p.fromNode = true) ∧
      (∀ m, r.toNode = some m → m.matches w p.toNode = true) ∧
      (∀ m, r.fromSvc = some m → m.matches w p.fromSvc = true) ∧
      (∀ m, r.toSvc = some m → m.matches w p.toSvc = true) := by
  have key : ∀ (o : Option Matcher) (x : Bytes), fieldOK w o x = true ↔ ∀ m, o = some m → m.matches w x = true := by
    intro o x
    cases o <;> simp [fieldOK]
  simp only [Rule.matches, Bool.and_eq_true, key, and_assoc]

/-- a literal field matches exactly the equal string -/
theorem literal_match (w : Wrap) (a s : Bytes) : (Matcher.lit a).matches w s = true ↔ a = s := by
  simp [Matcher.matches]

/-- **regex_full_match.** With the grouped wrapping a `/r/` field matches exactly the strings
that `r` matches in full. -/
theorem regex_full_match (r : Re) (s : Bytes) :
    (Matcher.re r).matches .grouped s = true ↔ Re.Matches r s := by
  simp only [Matcher.matches, regexMatch]
  exact Re.fullMatch_iff r s

/-! ### Parsing -/

theorem buildPat_true (p : Pat) : buildPat true p =
    if p.src = [] then .absent
    else if p.src.head? = some 47 then
      if p.src.getLast? ≠ some 47 then .bad
      else if p.src.length < 2 then .bad
      else (p.compiled.map fun r => PatOut.m (.re r)).getD .bad
    else .m (.lit p.src) := by
  unfold buildPat
  simp only [↓reduceIte]
  cases p.compiled <;> rfl

/-- a property of both branches holds of the conditional (`P` is given, not found by unification) -/
theorem ite_prop {α} (P : α → Prop) {c : Prop} [Decidable c] {a b : α} (ha : P a) (hb : P b) :
    P (if c then a else b) := by
  split <;> assumption

theorem buildPat_strict_no_panic (p : Pat) : buildPat true p ≠ .panic := by
  have k := @ite_prop _ (· ≠ PatOut.panic)
  rw [buildPat_true]
  exact k nofun (k (k nofun (k nofun (by cases p.compiled <;> nofun))) nofun)

/-- **bad_rule_refused (patterns).** In strict mode a given (non-empty) pattern always yields
its own constraint: a literal for plain text, the compiled expression for a well-delimited
`/…/`; nothing else is ever produced, and an empty value is the only way to leave a field
unconstrained. -/
theorem buildPat_strict (p : Pat) :
    (buildPat true p = .absent ↔ p.src = []) ∧
    (∀ x, buildPat true p = .m x →
      (p.src.head? ≠ some 47 ∧ x = .lit p.src) ∨
      (p.src.head? = some 47 ∧ p.src.getLast? = some 47 ∧ 2 ≤ p.src.length ∧ ∃ r, p.compiled = some r ∧ x = .re r)) := by
  rw [buildPat_true]
  by_cases h0 : p.src = []
  · simp [h0]
  by_cases h1 : p.src.head? = some 47
  · by_cases h2 : p.src.getLast? = some 47
    · by_cases h3 : p.src.length < 2
      · simp [h0, h1, h2, h3]
      · cases hc : p.compiled <;> simp [h0, h1, h2, h3, eq_comm, Nat.le_of_not_lt h3]
    · simp [h0, h1, h2]
  · simp [h0, h1, eq_comm]

theorem collect_other_err {kv : KV} {kvs : List KV} (hm : kv ∈ kvs) (hk : kv.val = .other) (raw : Raw) :
    ∃ e, collect kvs raw = .error e := by
  induction hm generalizing raw with
  | head rest => rw [collect, hk]; exact ⟨_, rfl⟩
  | @tail x rest _ ih =>
    rw [collect]
    cases x.val with
    | other => exact ⟨_, rfl⟩
    | str s =>
      -- whichever key it is, the parse goes on with the rest or stops (`split` is slow here: it simplifies the whole goal)
      have k := @ite_prop _ (fun x : Except ParseErr Raw => ∃ e, x = .error e)
      exact k (ih _) (k (ih _) (k (ih _) (k (ih _) (k (ih _) ⟨_, rfl⟩))))

/-- **bad_rule_refused (values).** A rule containing a value that is not a string is refused,
in either mode. -/
theorem nonstring_refused (strict : Bool) (kvs : List KV) (h : ∃ kv ∈ kvs, kv.val = .other) :
    ∃ e, parseRule strict kvs = .err e := by
  obtain ⟨kv, hm, hk⟩ := h
  obtain ⟨e, he⟩ := collect_other_err hm hk {}
  exact ⟨e, by rw [parseRule, he]⟩

/-- **bad_rule_refused (whole rule).** In strict mode a rule that parses constrains every
field exactly as its pattern says and has a recognised action; parsing never panics. -/
theorem parseRule_strict (kvs : List KV) :
    parseRule true kvs ≠ .panic ∧
    ∀ rule, parseRule true kvs = .ok rule →
      ∃ raw, collect kvs {} = .ok raw ∧ parseAction raw.action = some rule.action ∧
        buildPat true raw.fromNode ≠ .bad ∧ buildPat true raw.toNode ≠ .bad ∧
        buildPat true raw.fromSvc ≠ .bad ∧ buildPat true raw.toSvc ≠ .bad ∧
        rule.fromNode = patField (buildPat true raw.fromNode) ∧ rule.toNode = patField (buildPat true raw.toNode) ∧
        rule.fromSvc = patField (buildPat true raw.fromSvc) ∧ rule.toSvc = patField (buildPat true raw.toSvc) := by
  unfold parseRule
  cases hc : collect kvs {} with
  | error e => exact ⟨nofun, fun _ h => nomatch h⟩
  | ok raw =>
    dsimp only
    rw [if_neg (by simp [buildPat_strict_no_panic])]
    split
    · exact ⟨nofun, fun _ h => nomatch h⟩
    rename_i hb
    cases ha : parseAction raw.action with
    | none => exact ⟨nofun, fun _ h => nomatch h⟩
    | some a =>
      refine ⟨nofun, fun rule h => ?_⟩
      cases h
      simp only [not_or] at hb
      exact ⟨raw, rfl, ha, hb.1, hb.2.1, hb.2.2.1, hb.2.2.2, rfl, rfl, rfl, rfl⟩

/-! ### Witnesses of the defects in the pinned tree (lenient mode, ungrouped wrap) -/

/-- a malformed pattern silently widened the rule: `{action: drop, tonode: "/abc"}` parsed
into "drop everything" -/
theorem C12_witness_widened :
    parseRule false [{ key := kAction, val := .str aDrop }, { key := kToNode, val := .str [47, 97, 98, 99] }]
      = .ok { action := .drop } := by decide

/-- the pattern `/` made `regexCompare` slice `[1:0]` -/
theorem C12_witness_panic :
    parseRule false [{ key := kAction, val := .str aDrop }, { key := kToNode, val := .str [47] }] = .panic := by
  decide

/-- `/a|b/` wrapped as `^a|b$` matched `ax` (and `xb`), which `a|b` does not fully match -/
theorem C12_witness_ungrouped :
    regexMatch .ungrouped (.alt (.chr 97) (.chr 98)) [97, 120] = true
    ∧ regexMatch .grouped (.alt (.chr 97) (.chr 98)) [97, 120] = false := by decide

/-- Non-vacuity: a two-rule list where the second rule decides. -/
example : evalRules .grouped
    [{ action := .drop, toSvc := some (.lit [1]) }, { action := .reject, toNode := some (.re (.star (.chr 97))) }]
    { fromNode := [5], fromSvc := [6], toNode := [97, 97], toSvc := [2] } = .reject := by decide

end Receptor.Firewall

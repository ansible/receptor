import Receptor.Model.Lifecycle
import Receptor.Generated.Facts
/-!
# C13 — work units only move forward; release removes them; unit IDs are unique
-/
namespace Receptor.Life

/-- **Tie (translator)**: Cancel's steps (no pid: nothing; interrupt; "already finished": nothing; wait for
the exit; then the final write, which leaves a succeeded record alone); the runner's writes in source
order (pending 0, killed, running tick, error, succeeded, failed — all with the measured output size);
Start writes pending before it launches the runner; AllocateUnit draws the ID and registers the unit
under the index write lock. -/
theorem C13_facts :
    Receptor.Facts.life_cancel_order = "no-pid:return;signal(os.Interrupt);already-finished:return;wait;write-unless-succeeded(WorkStateCanceled)"
    ∧ Receptor.Facts.life_cancel_keeps_succeeded = true
    ∧ Receptor.Facts.life_runner_writes = "WorkStatePending:0;WorkStateFailed:stdoutSize(unitdir);WorkStateRunning:stdoutSize(unitdir);WorkStateFailed:stdoutSize(unitdir);WorkStateSucceeded:stdoutSize(unitdir);WorkStateFailed:stdoutSize(unitdir)"
    ∧ Receptor.Facts.life_start_order = "write(WorkStatePending,0);launch"
    ∧ Receptor.Facts.life_alloc_order = "Lock;defer-Unlock;generateUnitID(false);register"
    ∧ Receptor.Facts.life_release = "for{err := RemoveAll;force:break;err != nil:attemptsLeft--,retry|return err;break};Lock;delete;return nil"
    ∧ Receptor.Facts.life_runner_mkdir = "creates-no-directory" :=
  ⟨rfl, rfl, rfl, rfl, rfl, rfl, rfl⟩

/-- how far the runner process is, on the scale of `stage`: the record is never ahead of it -/
def rank : RPhase → Nat
  | .notStarted | .launched => 0
  | .ticking | .cmdDone _ => 1
  | .exited => 2

/-- what holds in every reachable state of a command unit's record -/
structure Inv (s : St) : Prop where
  ph : stage s.state ≤ rank s.r
  sz : s.size ≤ s.out

/-- What one step can do.  The runner and its output only advance.  A state that is rewritten is at
least where the runner was (so, by `Inv`, not behind the stored one) and at most where the runner is
now; a size that is rewritten is the output size, or 0 together with pending. -/
structure Moves (s s' : St) : Prop where
  r : rank s.r ≤ rank s'.r
  out : s.out ≤ s'.out
  state : s'.state = s.state ∨ (rank s.r ≤ stage s'.state ∧ stage s'.state ≤ rank s'.r)
  size : s'.size = s.size ∨ s'.size = s.out ∨ (s'.state = 0 ∧ s'.size = 0)

theorem Moves.rfl {s : St} : Moves s s := ⟨Nat.le_refl _, Nat.le_refl _, .inl (Eq.refl _), .inl (Eq.refl _)⟩

theorem step_moves (k : Bool) (s : St) (e : Ev) : Moves s (step k s e) := by
  -- the one case analysis of `step`, by event and guard: an event that is not enabled leaves the state as it is;
  -- for the others the four conditions are computed
  cases e <;> simp only [step] <;> repeat' split
  all_goals first | exact .rfl | (constructor <;> simp [*, rank, stage])

theorem Moves.inv {s s' : St} (m : Moves s s') (h : Inv s) : Inv s' := by
  obtain ⟨mr, mo, ms, mz⟩ := m
  obtain ⟨hp, hz⟩ := h
  constructor
  · rcases ms with ms | ms
    · rw [ms]; exact Nat.le_trans hp mr
    · exact ms.2
  · omega

theorem Moves.stage_le {s s' : St} (m : Moves s s') (h : Inv s) : stage s.state ≤ stage s'.state := by
  rcases m.state with ms | ms
  · rw [ms]; exact Nat.le_refl _
  · exact Nat.le_trans h.ph ms.1

theorem Moves.size_le {s s' : St} (m : Moves s s') (h : Inv s) (h' : s'.state ≠ 0) : s.size ≤ s'.size := by
  have := h.sz
  have := m.size
  omega

/-- a finished record: the runner is gone -/
theorem Inv.exited {s : St} (h : Inv s) (hs : 2 ≤ stage s.state) : s.r = .exited := by
  have := Nat.le_trans hs h.ph
  cases hr : s.r <;> simp_all [rank]

theorem inv_reach (k : Bool) (evs : List Ev) : Inv (run k {} evs) :=
  List.foldlRecOn evs (step k) ⟨Nat.le_refl _, Nat.le_refl _⟩ fun s h e _ => (step_moves k s e).inv h

theorem stage_le_of (st : Nat) (h : st = 0 ∨ st = 1) : stage st ≤ 1 := by
  rcases h with h | h <;> subst h <;> decide

/-- **stage_monotone.** In every reachable state, whichever step comes next — daemon or runner, in any
order — the stored state does not go back to an earlier stage (pending < running < finished). -/
theorem stage_monotone (k : Bool) (evs : List Ev) (e : Ev) :
    stage (run k {} evs).state ≤ stage (step k (run k {} evs) e).state :=
  (step_moves k _ e).stage_le (inv_reach k evs)

/-- **succeeded_sticks.** Once the record says succeeded, no later step of anybody changes the state
or the recorded output size (given that Cancel's final write leaves a succeeded record alone). -/
theorem succeeded_sticks (evs : List Ev) (e : Ev) (hs : (run true {} evs).state = 2) :
    (step true (run true {} evs) e).state = 2 ∧ (step true (run true {} evs) e).size = (run true {} evs).size := by
  -- the runner has exited, so only Cancel's final write is left, and the guard stops it
  have hr := (inv_reach true evs).exited (by rw [hs]; decide)
  generalize run true {} evs = s at hr hs
  cases e with
  | cancel | dCancelWrite => simp only [step, hr, hs]; split <;> simp [hs]
  | _ => simp [step, hr, hs]

/-- **size_monotone_while_running.** While the record says running, the recorded output size never shrinks. -/
theorem size_monotone_while_running (k : Bool) (evs : List Ev) (e : Ev) (h1 : (run k {} evs).state = 1)
    (h2 : (step k (run k {} evs) e).state = 1) : (run k {} evs).size ≤ (step k (run k {} evs) e).size :=
  (step_moves k _ e).size_le (inv_reach k evs) (by rw [h2]; decide)

/-- **cancel_write_after_exit.** The daemon writes "cancelled" only when the runner process it interrupted is gone. -/
theorem cancel_write_after_exit (k : Bool) (s : St) (h : (step k s .dCancelWrite).state ≠ s.state) : s.r = .exited := by
  simp only [step] at h
  split at h
  · rename_i hc; exact hc.2
  · exact absurd rfl h

/-- the defect found with this model (repaired in /repo): without the guard, a cancel that arrives while
the runner is between the command's exit and its final write turns succeeded into cancelled -/
theorem C13_witness_succeeded_overwritten :
    trace false {} [.dPending, .dLaunch, .rInit, .output 5, .rTick, .cmdExit true, .cancel, .rFinal, .dCancelWrite]
      = [(0, 0), (0, 0), (0, 0), (0, 0), (1, 5), (1, 5), (1, 5), (2, 5), (4, 5)] := by decide

/-- … and with the guard the same schedule keeps succeeded -/
example : (trace true {} [.dPending, .dLaunch, .rInit, .output 5, .rTick, .cmdExit true, .cancel, .rFinal, .dCancelWrite]).getLast? = some (2, 5) := by
  decide

/-! ### Unit IDs and release -/

theorem alloc_fresh (used : List ID) (cs : List ID) (id : ID) (h : alloc used cs = some id) : id ∉ used := by
  simpa using List.find?_some h

/-- **ids_distinct.** However the random candidates fall and however many submissions there are, the
IDs handed out are pairwise distinct and none of them is an ID already in use. -/
theorem ids_distinct : ∀ (streams : List (List ID)) (used : List ID),
    (allocAll used streams).Nodup ∧ ∀ id ∈ allocAll used streams, id ∉ used := by
  intro streams
  induction streams with
  | nil => exact fun _ => ⟨List.nodup_nil, nofun⟩
  | cons cs rest ih =>
    intro used
    unfold allocAll
    cases ha : alloc used cs with
    | none => exact ih used
    | some id =>
      -- the later IDs avoid `id :: used`: they differ from `id` and are not in `used`
      obtain ⟨hn, hf⟩ := ih (id :: used)
      exact ⟨List.nodup_cons.mpr ⟨fun hm => hf id hm List.mem_cons_self, hn⟩,
        List.forall_mem_cons.mpr ⟨alloc_fresh used cs id ha, fun x hx hu => hf x hx (List.mem_cons_of_mem _ hu)⟩⟩

/-- **released_is_unknown.** After a successful release the unit is neither in the index nor on disk, and
every other unit is as known as before. -/
theorem released_is_unknown (t : Table) (id : ID) :
    known (release t id) id = false ∧ ∀ other, other ≠ id → known (release t id) other = known t other := by
  constructor
  · simp [known, release]
  · intro other ho
    simp [known, release, List.contains_eq_mem, ho]

/-- **unforced_release_all_or_nothing.** A release that is not forced either succeeds and the unit is
gone — from the index and from the disk — or fails and nothing has changed. -/
theorem unforced_release_all_or_nothing (t : Table) (id : ID) (removeOK : Bool) :
    ((releaseResult t id removeOK false).2 = true → known (releaseResult t id removeOK false).1 id = false)
    ∧ ((releaseResult t id removeOK false).2 = false → (releaseResult t id removeOK false).1 = t) := by
  cases removeOK <;> simp [releaseResult, known, release]

end Receptor.Life

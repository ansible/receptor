import Receptor.Proofs.StatusRMW
import Receptor.Generated.Facts
/-!
# C14 — status records are updated atomically w.r.t. every other reader and writer

Model: `Receptor.StatusRMW` — any number of threads (goroutines and processes alike: the lock
is the lock *file*), each running a program of `update f` / `save v` / `load` operations made
of micro-steps (acquire · read+apply · truncate · write · release); a schedule interleaves the
micro-steps arbitrarily.  All theorems quantify over every program list and every schedule.
-/
namespace Receptor.StatusRMW

variable {α : Type}

/-- **Tie (translator)**: the order of the file-protocol events in `Save`, `Load`,
`UpdateFullStatus` — the lock (an exclusive `lockedfile` on `<status>.lock`) is taken before the
status file is opened and released (deferred) after it is closed; `UpdateFullStatus` re-reads
the stored record when the file is not empty, applies the callback, truncates, writes;
`UpdateBasicStatus` and `saveStdoutSize` are nothing but an `UpdateFullStatus` with a callback
(no early return); the `BaseWorkUnit` wrappers call the same primitives on the unit's file. -/
theorem C14_facts :
    Receptor.Facts.st_lock = "lockedfile.OpenFile(os.O_CREATE|os.O_WRONLY|os.O_TRUNC);return lockFile, nil"
    ∧ Receptor.Facts.st_lock_name = "filename + \".lock\""
    ∧ Receptor.Facts.st_unlock = "lockFile.Close()"
    ∧ Receptor.Facts.st_save = "lock;defer-unlock;open(os.O_CREATE|os.O_WRONLY|os.O_TRUNC);save;return file.Close()"
    ∧ Receptor.Facts.st_load = "lock;defer-unlock;open(RO);load;return file.Close()"
    ∧ Receptor.Facts.st_update = "lock;defer-unlock;open(os.O_CREATE|os.O_RDWR);seek(0,2);seek(0,0);size > 0:load;apply;seek(0,0);truncate(0);save;return nil"
    ∧ Receptor.Facts.st_basic = "1:return sfd.UpdateFullStatus(filename, func(status *StatusFil;sfd.UpdateFullStatus(filename,func)"
    ∧ Receptor.Facts.st_basic_cb = "status.State = state;status.Detail = detail;if stdoutSize >= 0 { status.StdoutSize = stdoutSize }"
    ∧ Receptor.Facts.st_stdout = "return si.UpdateFullStatus(statusFilename, func(status *Stat;si.UpdateFullStatus(statusFilename,func)"
    ∧ Receptor.Facts.st_bwu = ["Save=RLock;defer-RUnlock;return bwu.status.Save(bwu.statusFileName);bwu.status.Save(bwu.statusFileName)",
        "Load=Lock;defer-Unlock;return bwu.status.Load(bwu.statusFileName);bwu.status.Load(bwu.statusFileName)",
        "UpdateFullStatus=Lock;defer-Unlock;bwu.status.UpdateFullStatus(bwu.statusFileName,statusFunc)",
        "UpdateBasicStatus=Lock;defer-Unlock;bwu.status.UpdateBasicStatus(bwu.statusFileName,state,detail,stdoutSize)"]
    ∧ Receptor.Facts.st_io = "true true true true"
    ∧ Receptor.Facts.st_removals = "stdio_utils.go:os.RemoveAll(path)" :=
  ⟨rfl, rfl, rfl, rfl, rfl, rfl, rfl, rfl, rfl, rfl, rfl, rfl⟩

/-- the state reached from a fresh unit (`r0` stored) after an arbitrary schedule -/
def reach (r0 : α) (progs : List (List (Op α))) (sched : List Nat) : St α := run (init r0 progs) sched

theorem reach_inv (r0 : α) (progs : List (List (Op α))) (sched : List Nat) : Inv r0 (reach r0 progs sched) :=
  run_inv (inv_step r0) sched _ (inv_init r0 progs)

theorem reach_acct (r0 : α) (progs : List (List (Op α))) (sched : List Nat) : Acct progs (reach r0 progs sched) :=
  run_inv (acc_step progs) sched _ (acc_init r0 progs)

/-- **mutual_exclusion.** Under every schedule at most one thread is inside an operation (between
taking and releasing the lock). -/
theorem mutual_exclusion (r0 : α) (progs : List (List (Op α))) (sched : List Nat) (t1 t2 : Nat) (x1 x2 : Th α)
    (h1 : (reach r0 progs sched).th[t1]? = some x1) (h2 : (reach r0 progs sched).th[t2]? = some x2)
    (n1 : ¬ x1.pc.isIdle) (n2 : ¬ x2.pc.isIdle) : t1 = t2 := by
  have hi := reach_inv r0 progs sched
  exact Option.some.inj ((hi.holder h1 n1).1.symm.trans (hi.holder h2 n2).1)

/-- **no_lost_update.** Under every schedule, whenever nobody holds the lock the stored record
is the initial record with *every* write operation started so far applied, one at a time, in
lock-acquisition order — each to the record the previous one stored. -/
theorem no_lost_update (r0 : α) (progs : List (List (Op α))) (sched : List Nat)
    (h : (reach r0 progs sched).owner = none) :
    (reach r0 progs sched).file = some (applyAll (reach r0 progs sched).fns r0) :=
  (reach_inv r0 progs sched).free h

/-- **every_write_is_in_the_log.** Under every schedule, the writes thread `t` contributed to that
sequence are exactly the write operations it has completed (plus the one it is inside), in its
program order; and what it has completed and what it still has to do is its program. -/
theorem every_write_is_in_the_log (r0 : α) (progs : List (List (Op α))) (sched : List Nat) (t : Nat) (x : Th α)
    (h : (reach r0 progs sched).th[t]? = some x) :
    (reach r0 progs sched).fnsOf t = opFns (x.done ++ x.cur) ∧ progs[t]? = some (x.done ++ x.ops) :=
  ⟨(reach_acct r0 progs sched).mine t x h, (reach_acct r0 progs sched).hist t x h⟩

/-- **finished_all_applied.** When every thread has run its whole program, the stored record is
the initial record with all writes of all programs applied in one sequential order that keeps
every program's own order: nothing lost, nothing applied to a stale record. -/
theorem finished_all_applied (r0 : α) (progs : List (List (Op α))) (sched : List Nat)
    (hf : finished (reach r0 progs sched)) :
    (reach r0 progs sched).file = some (applyAll (reach r0 progs sched).fns r0)
    ∧ ∀ t x, (reach r0 progs sched).th[t]? = some x → (reach r0 progs sched).fnsOf t = opFns x.done ∧ progs[t]? = some x.done := by
  refine ⟨no_lost_update r0 progs sched ?_, fun t x hx => ?_⟩
  · -- a thread holding the lock would have an operation left
    cases ho : (reach r0 progs sched).owner with
    | none => rfl
    | some t =>
      obtain ⟨x, hx, hne, _⟩ := (reach_inv r0 progs sched).held t ho
      exact absurd (hf x (List.mem_of_getElem? hx)) hne
  · obtain ⟨hm, hh⟩ := every_write_is_in_the_log r0 progs sched t x hx
    have he : x.ops = [] := hf x (List.mem_of_getElem? hx)
    have hc : x.cur = [] := by unfold Th.cur; rw [he]; cases x.pc <;> rfl
    rw [hc, List.append_nil] at hm
    rw [he, List.append_nil] at hh
    exact ⟨hm, hh⟩

/-- **no_torn_read.** Under every schedule, every `Load` saw a complete record: the initial
record with a prefix of the write sequence applied — never an empty or half-written file. -/
theorem no_torn_read (r0 : α) (progs : List (List (Op α))) (sched : List Nat) (r : Option α)
    (h : r ∈ (reach r0 progs sched).reads) :
    ∃ k, k ≤ (reach r0 progs sched).fns.length ∧ r = some (applyAll ((reach r0 progs sched).fns.take k) r0) :=
  (reach_inv r0 progs sched).reads r h

/-- **writer_never_reads_empty.** Under every schedule an update that holds the lock finds a
complete record to re-read (so the in-memory fall-back of `if size > 0` is never what it
builds on after the unit was created). -/
theorem writer_never_reads_empty (r0 : α) (progs : List (List (Op α))) (sched : List Nat) (t : Nat) (x : Th α) (f : α → α)
    (h : (reach r0 progs sched).th[t]? = some x) (hp : x.pc = .acqU f) :
    (reach r0 progs sched).file.isSome = true := by
  obtain ⟨_, _, hh⟩ := (reach_inv r0 progs sched).holder h (by rw [hp]; exact id)
  rw [hp] at hh
  obtain ⟨pre, _, hfile⟩ := hh
  rw [hfile]; rfl

/-! ### Non-vacuity and what goes wrong without the lock -/

/-- two counters incremented by two threads, three loads by a third, under an adversarial
schedule: both increments are in the record and the loads saw 0, 1 or 2 -/
example :
    let s := reach (0 : Nat) [[.update (· + 1)], [.update (· + 1)], [.load, .load]]
      [0, 1, 2, 0, 0, 1, 0, 0, 2, 1, 2, 2, 1, 2, 1, 1, 1, 1, 2, 2, 2]
    s.file = some 2 ∧ s.owner = none ∧ s.reads = [some 1, some 2] ∧ (∀ x ∈ s.th, x.ops = []) := by decide

/-- a `save` serialised after an update replaces the record (it is not a read-modify-write) -/
example :
    let s := reach (0 : Nat) [[.update (· + 5)], [.save 1]] [0, 1, 0, 0, 0, 0, 1, 1, 1, 1]
    s.file = some 1 ∧ s.owner = none := by decide

end Receptor.StatusRMW

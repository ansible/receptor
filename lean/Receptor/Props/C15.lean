import Receptor.Model.Work
import Receptor.Proofs.WorkNode
import Receptor.Generated.Facts
/-!
# C15 — signature-protected work cannot be driven remotely without a valid token
-/
namespace Receptor.Work

/-- **Tie (translator)**: `processSignature` (decision by work type / signwork flag, skip only
for the Unix socket, unexpected tokens refused) and, in every gated arm of `ControlFunc`, the
call to it before the effect; `VerifySignature` refuses an empty token and an unset key and
checks validity and audience, calls nothing else (no memory of earlier verdicts) and accepts in one place
only; the gate and the allocation look the work type up under the name exactly as given. -/
theorem C15_facts :
    Receptor.Facts.sig_gate = "!shouldVerifySignature && signature != \"\":refuse;shouldVerifySignature && !connIsUnix:VerifySignature"
    ∧ Receptor.Facts.sig_should = "remote:signWork;ok && wt.verifySignature"
    ∧ Receptor.Facts.sig_unix = "addr.Network() == \"unix\""
    ∧ Receptor.Facts.sig_arms = "submit:gate<AllocateUnit,AllocateRemoteUnit;cancel,release,force-release:findUnit<gate<Cancel,Release;results:findUnit<gate<GetResults"
    ∧ Receptor.Facts.sig_verify = "empty;nokey;ParseWithClaims;!token.Valid;VerifyAudience(w.nc.NodeID(), true)"
    ∧ Receptor.Facts.sig_verify_calls = "certificates.LoadPublicKey;jwt.ParseWithClaims;claims.VerifyAudience;w.nc.NodeID;accepting-returns:1"
    ∧ Receptor.Facts.sig_type_lookup = "ShouldVerifySignature:w.workTypes[workType],param-unmodified;AllocateUnit:w.workTypes[workTypeName],param-unmodified" :=
  ⟨rfl, rfl, rfl, rfl, rfl, rfl, rfl⟩

/-- in every gated arm the effect lies behind the gate -/
theorem gate_of_effect {sub : Sub} {found : Bool} {t : TypeCfg} {c : Conn} {tok : Token} {key : Bool}
    (hg : gated sub = true) (h : dispatch true sub found t c tok key = .effect) : gate t c tok key = .pass := by
  unfold dispatch at h
  simp only [hg, Bool.not_true, Bool.false_eq_true, if_false] at h
  split at h
  · cases h
  · split at h
    · assumption
    · cases h

/-- **effect_requires_token.** For a verifying work type, over anything but the local Unix
socket, a submit / cancel / release / force-release / results command takes effect only with a
token that is present and valid (correctly signed by the configured key, unexpired, addressed to
this node). -/
theorem effect_requires_token (sub : Sub) (found : Bool) (t : TypeCfg) (c : Conn) (tok : Token) (key : Bool)
    (hg : gated sub = true) (hv : shouldVerify t = true) (hc : c ≠ .unix)
    (h : dispatch true sub found t c tok key = .effect) :
    tok.present = true ∧ tok.valid = true ∧ key = true := by
  have hp := gate_of_effect hg h
  have : (c != Conn.unix) = true := by simp [hc]
  simp only [gate, hv, this, Bool.not_true, Bool.false_and, Bool.false_eq_true, if_false, Bool.true_and, if_true] at hp
  split at hp
  · rename_i hp'; simp at hp'; exact ⟨hp'.1.1, hp'.2, hp'.1.2⟩
  · cases hp

/-- **refused_has_no_effect.** A refused command does not take effect (the gate comes before the
effect in every arm): the only outcomes are effect, refusal, unknown unit, information. -/
theorem refused_has_no_effect (sub : Sub) (found : Bool) (t : TypeCfg) (c : Conn) (tok : Token) (key : Bool)
    (hg : gated sub = true) (hr : gate t c tok key ≠ .pass) :
    dispatch true sub found t c tok key ≠ .effect :=
  fun h => hr (gate_of_effect hg h)

/-- **unexpected_token_refused.** A token sent to a work type that does not expect one is
refused, on every kind of connection. -/
theorem unexpected_token_refused (t : TypeCfg) (c : Conn) (tok : Token) (key : Bool)
    (hv : shouldVerify t = false) (hp : tok.present = true) : gate t c tok key = .refuseUnexpected := by
  simp [gate, hv, hp]

/-- **unix_socket_exempt.** Exactly the local Unix socket is exempt: there a verifying type
passes without a token, anywhere else it does not. -/
theorem unix_socket_exempt (t : TypeCfg) (tok : Token) (key : Bool) (hv : shouldVerify t = true) :
    gate t .unix tok key = .pass ∧ (tok.present = false → gate t .other tok key = .refuseInvalid) := by
  constructor
  · simp [gate, hv]
  · intro hp; simp [gate, hv, hp]

/-- status and list are information only: they never take effect, with or without a token -/
theorem info_commands_never_effect (gb : Bool) (sub : Sub) (found : Bool) (t : TypeCfg) (c : Conn) (tok : Token) (key : Bool)
    (hg : gated sub = false) : dispatch gb sub found t c tok key ≠ .effect := by
  unfold dispatch
  simp only [hg, Bool.not_false, if_true]
  split <;> simp

/-- what an effect implies, in one statement: the command is a gated one, and where a token is required it was there -/
theorem effect_authorised {sub : Sub} {found : Bool} {t : TypeCfg} {c : Conn} {tok : Token} {key : Bool}
    (h : dispatch true sub found t c tok key = .effect) :
    gated sub = true ∧ (shouldVerify t = true → c ≠ .unix → tok.present = true ∧ tok.valid = true ∧ key = true) := by
  cases hg : gated sub with
  | false => exact absurd h (info_commands_never_effect true sub found t c tok key hg)
  | true => exact ⟨rfl, fun hv hc => effect_requires_token sub found t c tok key hg hv hc h⟩

/-- Non-vacuity: a verifying local type over TCP with an expired token is refused; with a valid
token it takes effect; over the Unix socket no token is needed. -/
example : dispatch true .submit true ⟨false, false, true, true⟩ .other ⟨true, false⟩ true = .refused .refuseInvalid
    ∧ dispatch true .submit true ⟨false, false, true, true⟩ .other ⟨true, true⟩ true = .effect
    ∧ dispatch true .cancel true ⟨false, false, true, true⟩ .unix ⟨false, false⟩ true = .effect := by decide

end Receptor.Work

/-! ## over histories -/
namespace Receptor.WorkNode
open Receptor.Work

/-- a command that needs a valid token and has none is not dispatched as an effect -/
theorem dispatch_unauthorised (n : Node) (c : Cmd) (h : unauthorised n c = true) :
    dispatch true c.sub (findUnit n c.target).isSome (cfgFor n c) c.conn c.tok n.key ≠ .effect := by
  intro hd
  simp only [unauthorised, Bool.and_eq_true, Bool.not_eq_true', bne_iff_ne, ne_eq] at h
  obtain ⟨⟨hv, hc⟩, ht⟩ := h
  obtain ⟨h1, h2, h3⟩ := (effect_authorised hd).2 hv hc
  simp [h1, h2, h3] at ht

/-- a step that changed the node or answered "done" was dispatched as an effect -/
theorem effect_of_step {n : Node} {c : Cmd} (h : (step n (.cmd c)).1 ≠ n ∨ (step n (.cmd c)).2 = .done) :
    dispatch true c.sub (findUnit n c.target).isSome (cfgFor n c) c.conn c.tok n.key = .effect := by
  rcases step_cases n (.cmd c) with ⟨_, ⟨⟩, hd, _⟩ | ⟨e, ho, _⟩
  · exact hd
  · exact h.elim (absurd e) (absurd · ho)

/-- **unauthorised_history_changes_nothing.** Whatever sequence of commands (and restarts) arrives, if each
of them concerns a verifying work type, comes over something other than the local Unix socket and carries no
valid token, then at the end the node holds exactly the units it held, unchanged — nothing was created,
stopped, removed or read — and no command was answered as done. -/
theorem unauthorised_history_changes_nothing : ∀ (ops : List Op) (n : Node),
    (∀ c, Op.cmd c ∈ ops → unauthorised n c = true) →
    (run n ops).1 = n ∧ ∀ o ∈ (run n ops).2, o ≠ .done := by
  intro ops
  induction ops with
  | nil => exact fun n _ => ⟨rfl, fun _ h => nomatch h⟩
  | cons op rest ih =>
    intro n h
    have hstep : (step n op).1 = n ∧ (step n op).2 ≠ .done := by
      rcases step_cases n op with ⟨c, rfl, hd, _⟩ | ⟨e, ho, _⟩
      · exact absurd hd (dispatch_unauthorised n c (h c (List.mem_cons_self ..)))
      · exact ⟨e, ho⟩
    have hrest := ih n fun c hc => h c (List.mem_cons_of_mem _ hc)
    rw [run, hstep.1]
    exact ⟨hrest.1, List.forall_mem_cons.mpr ⟨hstep.2, hrest.2⟩⟩

/-- **every_effect_is_authorised.** In every history, from every state: wherever the node changed or a command
was answered as done, the command was a submit / cancel / release / force-release / results, and if the work
type it concerned verifies signatures and it did not come over the local Unix socket, it carried a token that
is present and valid (correctly signed by the configured key, unexpired, addressed to this node). -/
theorem every_effect_is_authorised : ∀ (ops : List Op) (n : Node) (p : Node × Cmd), p ∈ effects n ops →
    gated p.2.sub = true ∧
    (shouldVerify (cfgFor p.1 p.2) = true → p.2.conn ≠ .unix →
      p.2.tok.present = true ∧ p.2.tok.valid = true ∧ p.1.key = true) := by
  intro ops
  induction ops with
  | nil => intro n p hp; cases hp
  | cons op rest ih =>
    intro n p hp
    cases op with
    | restart => exact ih n p hp
    | cmd c =>
      rcases List.mem_append.mp hp with h1 | h1
      · split at h1
        · rename_i hch
          rw [List.mem_singleton.mp h1]
          exact effect_authorised (effect_of_step hch)
        · cases h1
      · exact ih _ p h1

/-- Non-vacuity: over TCP a verifying type refuses a submit with an expired token and runs one with a valid
token; the refused one leaves no trace, the accepted one is the only effect of the history. -/
example :
    (run {} [.cmd { sub := .submit, cfg := ⟨false, false, true, true⟩, conn := .other, tok := ⟨true, false⟩ },
             .cmd { sub := .submit, cfg := ⟨false, false, true, true⟩, conn := .other, tok := ⟨true, true⟩ },
             .cmd { sub := .cancel, target := 0, conn := .other, tok := ⟨false, false⟩ }]).2
      = [.refused .refuseInvalid, .done, .refused .refuseInvalid]
    ∧ (effects {} [.cmd { sub := .submit, cfg := ⟨false, false, true, true⟩, conn := .other, tok := ⟨true, false⟩ },
             .cmd { sub := .submit, cfg := ⟨false, false, true, true⟩, conn := .other, tok := ⟨true, true⟩ },
             .cmd { sub := .cancel, target := 0, conn := .other, tok := ⟨false, false⟩ }]).length = 1 := by
  decide

end Receptor.WorkNode

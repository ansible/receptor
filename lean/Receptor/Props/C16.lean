import Receptor.Proofs.Forward
import Receptor.Generated.Facts
import Receptor.Model.Pipeline
/-!
# C16 — senders learn when the target service does not exist; dials to it fail fast
-/
namespace Receptor.Forward

/-- `monitorUnreachable`: the dial / stream context is cancelled by a notice saying that the
service we are talking to is unknown on the node we are talking to -/
def dialCancelledBy (remoteNode : Node) (remoteSvc : Svc) (n : NoticeBody) : Bool :=
  n.problem == .serviceUnknown && n.toNode == remoteNode && n.toSvc == remoteSvc

/-- **Tie (translator)**: the unknown-or-closed-listener branch of `handleMessageData`
(synchronous error for a local sender, `service unknown` notice otherwise), the per-socket
filter of `StartUnreachable`, and the cancel condition of `monitorUnreachable`; every hop from the node's broker to
the reader of `SubscribeUnreachable` is a send on an unbuffered channel that blocks (only the context ends it): no
buffer that can fill up, no `default` branch that discards — the pipeline model's `dropAt = none`. -/
theorem C16_facts :
    Receptor.Facts.unreach_unknown_branch = "!ok || pc.context.Err() != nil;md.FromNode == s.nodeID:error;notice:ProblemServiceUnknown"
    ∧ Receptor.Facts.unreach_socket_filter = "FromNode == pc.s.NodeID() && FromService == pc.localService"
    ∧ Receptor.Facts.unreach_dial_cancel = "msg.Problem == ProblemServiceUnknown && msg.ToNode == remoteAddr.node && msg.ToService == remoteAddr.service"
    ∧ Receptor.Facts.unreach_notice_fields = "FromNode:md.FromNode;ToNode:md.ToNode;FromService:md.FromService;ToService:md.ToService"
    ∧ Receptor.Facts.unreach_sent_from = "unreach->toNode:unreach"
    ∧ Receptor.Facts.unreach_hops = "broker.deliver:select-send|<-b.ctx.Done();broker.publish:select-send|<-b.ctx.Done();broker.sub-chan:make(chan interface{});broker.publish-chan:make(chan interface{});sub.chan:make(chan UnreachableNotification);sub.forward:plain-send" :=
  ⟨rfl, rfl, rfl, rfl, rfl, rfl⟩

/-- **notice_fields_echo.** A datagram from another node that reaches a node where nothing
listens on the addressed (non-reserved) service makes that node originate exactly one packet:
a `service unknown` notice addressed to the datagram's source node, echoing the datagram's
source and destination node and service. -/
theorem notice_fields_echo (me : Node) (cfg : NodeCfg) (p : Packet)
    (hfw : cfg.fw p.fromNode p.fromSvc p.toNode p.toSvc = .accept) (hto : p.toNode = me)
    (hsvc : p.toSvc ≠ pingSvc ∧ p.toSvc ≠ unreachSvc) (hl : cfg.listener p.toSvc = false) (hfrom : p.fromNode ≠ me) :
    handle stdHops me cfg p = .spawn
      { fromNode := me, fromSvc := unreachSvc, toNode := p.fromNode, toSvc := unreachSvc, ttl := cfg.maxHops,
        body := .notice { fromNode := p.fromNode, toNode := p.toNode, fromSvc := p.fromSvc, toSvc := p.toSvc,
                          problem := .serviceUnknown } } := by
  rw [handle_local hfw hto, if_neg hsvc.1, if_neg hsvc.2, hl, if_neg Bool.false_ne_true, if_neg hfrom]
  rfl

/-- a local sender is told synchronously instead (the error `WriteTo` returns) -/
theorem local_sender_gets_error (me : Node) (cfg : NodeCfg) (p : Packet)
    (hfw : cfg.fw p.fromNode p.fromSvc p.toNode p.toSvc = .accept) (hto : p.toNode = me)
    (hsvc : p.toSvc ≠ pingSvc ∧ p.toSvc ≠ unreachSvc) (hl : cfg.listener p.toSvc = false) (hfrom : p.fromNode = me) :
    handle stdHops me cfg p = .err .serviceUnknown := by
  rw [handle_local hfw hto, if_neg hsvc.1, if_neg hsvc.2, hl, if_neg Bool.false_ne_true, if_pos hfrom]

/-- when the notice arrives at the datagram's source node it is published there -/
theorem notice_published_at_origin (origin : Node) (cfg : NodeCfg) (q : Packet) (n : NoticeBody)
    (hfw : cfg.fw q.fromNode q.fromSvc q.toNode q.toSvc = .accept) (hto : q.toNode = origin)
    (hsvc : q.toSvc = unreachSvc) (hb : q.body = .notice n) :
    handle stdHops origin cfg q = .published n := by
  rw [handle_local hfw hto, hsvc, if_neg (by decide), if_pos rfl, hb]

/-- the body of the notice a node originates about packet `p` -/
def noticeAbout (p : Packet) (pr : Problem) : NoticeBody :=
  { fromNode := p.fromNode, toNode := p.toNode, fromSvc := p.fromSvc, toSvc := p.toSvc, problem := pr }

theorem mkNotice_body (me : Node) (cfg : NodeCfg) (p : Packet) (pr : Problem) :
    (mkNotice me cfg p pr).body = .notice (noticeAbout p pr) := rfl

/-- **notice_only_to_sender_socket.** Among all sockets open on the source node, exactly the
socket bound to the datagram's source service passes the notice on. -/
theorem notice_only_to_sender_socket (me : Node) (p : Packet) (pr : Problem)
    (hp : p.fromNode = me) (svc : Svc) :
    socketGetsNotice me svc (noticeAbout p pr) = true ↔ svc = p.fromSvc := by
  simp [noticeAbout, socketGetsNotice, hp]
  exact eq_comm

/-- sockets of other nodes never see it either -/
theorem notice_not_to_other_nodes (other : Node) (p : Packet) (pr : Problem) (svc : Svc)
    (h : p.fromNode ≠ other) : socketGetsNotice other svc (noticeAbout p pr) = false := by
  simp [noticeAbout, socketGetsNotice, h]

/-- **dial_cancelled_by_notice.** The `service unknown` notice produced for a packet of a dial
to `(remote, svc)` cancels exactly that dial: it names the dialled node and service. -/
theorem dial_cancelled_by_notice (remote : Node) (p : Packet) (hto : p.toNode = remote) :
    dialCancelledBy remote p.toSvc (noticeAbout p .serviceUnknown) = true := by
  simp [noticeAbout, dialCancelledBy, hto]

/-- notices about other problems (expired, rejected) or other addresses do not cancel the dial -/
theorem other_notices_do_not_cancel (remoteNode : Node) (remoteSvc : Svc) (n : NoticeBody)
    (h : n.problem ≠ .serviceUnknown ∨ n.toNode ≠ remoteNode ∨ n.toSvc ≠ remoteSvc) :
    dialCancelledBy remoteNode remoteSvc n = false := by
  simp only [dialCancelledBy]
  rcases h with h | h | h <;> simp [h]

/-- **drop_is_silent.** A packet dropped by policy produces no packet and no event at all. -/
theorem drop_is_silent (me : Node) (cfg : NodeCfg) (p : Packet)
    (hfw : cfg.fw p.fromNode p.fromSvc p.toNode p.toSvc = .drop) :
    observe stdHops me cfg 6 p = [(p, .dropped)] := by
  simp only [observe, handle_drop hfw]

end Receptor.Forward

namespace Receptor.Pipeline

theorem passAt_keeps (i : Nat) (l : List (Option Nat)) : (passAt false i l).filterMap id = l.filterMap id := by
  fun_induction passAt false i l with
  | case1 => simp                               -- the hand-over into an empty slot
  | case2 _ _ _ h => cases h                    -- next slot busy and `drop`: not with `drop = false`
  | case5 _ s _ ih => cases s <;> simp [ih]     -- a hop further down
  | _ => rfl

theorem popLast_keeps {l : List (Option Nat)} {m : Nat} {ss : List (Option Nat)} (h : popLast l = some (m, ss)) :
    l.filterMap id = ss.filterMap id ++ [m] := by
  fun_induction popLast l generalizing m ss with
  | case2 => cases h; rfl                       -- `[some m]`
  | case4 s rest _ _ ih =>                      -- `s :: rest`, the last slot is further down
    obtain ⟨⟨m', ss'⟩, hp, heq⟩ := Option.map_eq_some_iff.mp h
    cases heq
    cases s <;> simp [ih hp]
  | _ => cases h

theorem step_pass (p : Pipe) (i : Nat) : step none p (.pass i) = { p with slots := passAt false i p.slots } := rfl

/-- no single move loses, duplicates or reorders anything -/
theorem step_contents (p : Pipe) (mv : Move) : contents (step none p mv) = contents p := by
  cases mv with
  | take =>
    simp only [step]
    split
    · next m rest ss hp hs => simp [contents, hp, hs]
    · rfl
  | pass i => simp only [step_pass, contents, passAt_keeps]
  | read =>
    simp only [step]
    split
    · next m ss hp => simp [contents, popLast_keeps hp]
    · rfl

/-- **no_notice_lost.** With blocking hand-offs, whatever the schedule of the stages: nothing is lost, nothing is
duplicated, the order is kept — what has been read, what is on its way and what the publisher still holds are, in
this order, exactly what was published. -/
theorem no_notice_lost : ∀ (moves : List Move) (p : Pipe), contents (run none p moves) = contents p := by
  intro moves
  induction moves with
  | nil => intro p; rfl
  | cons mv rest ih => intro p; rw [run, ih, step_contents]

/-- what has been read is always a prefix of what was published, in order -/
theorem delivered_is_prefix (moves : List Move) (published : List Nat) (k : Nat) :
    ∃ tail, published = (run none { pending := published, slots := List.replicate k none, delivered := [] } moves).delivered ++ tail := by
  have h := (no_notice_lost moves { pending := published, slots := List.replicate k none, delivered := [] }).symm
  simp only [contents, List.filterMap_replicate, id, List.reverse_nil, List.nil_append, List.append_assoc] at h
  exact ⟨_, h⟩

/-- all slots are empty, or the reader can take a message, or some hop can hand its message on -/
theorem slots_progress : ∀ l : List (Option Nat),
    l.filterMap id = [] ∨ (∃ m ss, popLast l = some (m, ss)) ∨ ∃ i, passAt false i l ≠ l
  | [] | [none] => .inl rfl
  | [some m] => .inr (.inl ⟨m, [none], rfl⟩)
  | s :: r :: rest => by
    rcases slots_progress (r :: rest) with ht | ⟨m, ss, hp⟩ | ⟨i, hi⟩
    · -- everything behind the first slot is empty: if that one is full it can hand over
      cases s with
      | none => exact .inl ht
      | some m =>
        cases r with
        | some x => simp at ht
        | none => exact .inr (.inr ⟨0, by simp [passAt]⟩)
    · exact .inr (.inl ⟨m, s :: ss, by simp [popLast, hp]⟩)
    · exact .inr (.inr ⟨i + 1, by simpa [passAt] using hi⟩)

/-- **no_deadlock.** As long as a published notice has not been read, some stage can move: the chain of blocking
hand-offs never wedges by itself (the reader only has to keep reading). -/
theorem no_deadlock (p : Pipe) (hs : p.slots ≠ []) (h : contents p ≠ p.delivered) : ∃ mv, step none p mv ≠ p := by
  rcases slots_progress p.slots with hc | ⟨m, ss, hp⟩ | ⟨i, hi⟩
  · -- nothing on its way: something is still with the publisher, and the first slot is free
    have hp : p.pending ≠ [] := fun he => h (by simp [contents, hc, he])
    obtain ⟨m, rest, hm⟩ := List.exists_cons_of_ne_nil hp
    obtain ⟨s, ss, hss⟩ := List.exists_cons_of_ne_nil hs
    cases s with
    | some x => simp [hss] at hc
    | none =>
      refine ⟨.take, fun he => ?_⟩
      have := congrArg Pipe.pending he
      simp [step, hm, hss] at this
  · refine ⟨.read, fun he => ?_⟩
    have := congrArg (fun q => q.delivered.length) he
    simp [step, hp] at this
  · exact ⟨.pass i, fun he => hi (congrArg Pipe.slots he)⟩

/-- Witness: a hop that discards when the next one is busy loses notices of a burst behind a slow reader -/
theorem C16_witness_drop_when_busy :
    (run (some 0) { pending := [1, 2, 3], slots := [none, none], delivered := [] }
      [.take, .pass 0, .take, .pass 0, .take, .pass 0, .read, .pass 0, .read, .pass 0, .read]).delivered = [1]
    ∧ (run none { pending := [1, 2, 3], slots := [none, none], delivered := [] }
      [.take, .pass 0, .take, .pass 0, .read, .pass 0, .take, .read, .pass 0, .read]).delivered = [1, 2, 3] := by
  decide


end Receptor.Pipeline

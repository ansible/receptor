import Receptor.Model.Sockets
import Receptor.Generated.Facts
import Receptor.Model.ListenerClose
/-!
# C17 — sockets, listeners and streams close at any time without crash or leak
-/
namespace Receptor.Sock

/-- **Tie (translator)**: a deliverer that sees the socket cancelled just returns (it does not close the
receive channel); `ReadFrom` watches the context in both of its selects; withdrawing an advertisement
checks the table entry; `PacketConn.Close` unbinds, cancels and withdraws; the clean-up goroutine of a
successful dial waits for the end of the QUIC connection (or of the node) and then closes the socket. -/
theorem C17_facts :
    Receptor.Facts.sock_handoff_on_cancel = "return nil"
    ∧ Receptor.Facts.sock_readfrom_selects = "m = <-pc.recvChan|<-pc.context.Done();m = <-pc.recvChan|<-pc.context.Done()|<-time.After(time.Until(pc.GetReadDeadline()))"
    ∧ Receptor.Facts.sock_ad_remove_checked = true
    ∧ Receptor.Facts.sock_close = "Lock;defer-Unlock;unbind;cancel;advertise:withdraw;return nil"
    ∧ Receptor.Facts.sock_dial_cleanup = "<-qc.Context().Done()|<-s.context.Done();_ = qs.Close();_ = pc.Close()"
    ∧ Receptor.Facts.sock_listener_close_order = "quic-listener<packet-conn" :=
  ⟨rfl, rfl, rfl, rfl, rfl, rfl⟩

theorem modSock_panicked (s : St) (i : Nat) (f : Sock → Sock) : (modSock s i f).panicked = s.panicked := by
  unfold modSock; split <;> rfl

theorem modSock_registry (s : St) (i : Nat) (f : Sock → Sock) : (modSock s i f).registry = s.registry := by
  unfold modSock; split <;> rfl

theorem modSock_eq {s : St} {i : Nat} {x : Sock} (hx : s.socks[i]? = some x) (f : Sock → Sock) :
    modSock s i f = { s with socks := s.socks.set i (f x) } := by
  simp only [modSock, hx]

theorem closeSock_none (G : Guards) {s : St} {i : Nat} (hx : s.socks[i]? = none) : closeSock G s i = s := by
  simp only [closeSock, hx]

/-- `closeSock` in closed form: the name is unbound, the socket marked closed and its advertisement withdrawn; a
withdrawal that finds no entry panics unless it is checked -/
theorem closeSock_eq (G : Guards) {s : St} {i : Nat} {x : Sock} (hx : s.socks[i]? = some x) :
    closeSock G s i = { s with
      registry := s.registry.filter (· != x.name)
      socks := s.socks.set i { x with open_ := false, subs := 0, adEntry := x.adEntry && !x.adv }
      panicked := s.panicked || (x.adv && !x.adEntry && !G.adRemoveChecked) } := by
  have h2 : ∀ y : Sock, (s.socks.set i y)[i]? = some y :=
    fun y => List.getElem?_set_self (List.getElem?_eq_some_iff.1 hx).1
  simp only [closeSock, hx, modSock_eq (s := { s with registry := s.registry.filter (· != x.name) }) hx]
  obtain ⟨n, o, adv, ade, p, rc, sb⟩ := x
  cases adv
  · simp
  · cases ade
    · cases G.adRemoveChecked <;> simp
    · rw [modSock_eq (s := { s with socks := _, registry := _ }) (h2 _)]; simp

theorem closeSock_panicked {G : Guards} {s : St} {i : Nat} (h : (closeSock G s i).panicked = true) :
    s.panicked = true ∨ G.adRemoveChecked = false := by
  cases hx : s.socks[i]? with
  | none => rw [closeSock_none G hx] at h; exact .inl h
  | some x =>
    rw [closeSock_eq G hx] at h
    simp only [Bool.or_eq_true, Bool.and_eq_true, Bool.not_eq_true'] at h
    exact h.imp id (·.2)

/-- what one operation can do to the state, the list of connections aside: nothing; change the counters of one
socket; open a socket under its name; close a socket; or panic for want of the guard of `wake` -/
inductive Frame (G : Guards) (s : St) : St → Prop
  | same : Frame G s s
  | conns (c : List (Nat × Bool)) : Frame G s { s with conns := c }
  | counters (i : Nat) (f : Sock → Sock) (hf : ∀ x, (f x).open_ = x.open_ ∧ (f x).name = x.name) :
      Frame G s (modSock s i f)
  | opened (x : Sock) (c : List (Nat × Bool)) (hx : x.open_ = true) :
      Frame G s { s with socks := s.socks ++ [x], registry := s.registry ++ [x.name], conns := c }
  | closed (i : Nat) (c : List (Nat × Bool)) : Frame G s (closeSock G { s with conns := c } i)
  | crash (h : G.recvCloseOnce = false) : Frame G s { s with panicked := true }

theorem step_frame (G : Guards) (s : St) (op : Op) : Frame G s (step G s op) := by
  unfold step
  by_cases hp : s.panicked = true
  · rw [if_pos hp]; exact .same
  rw [if_neg hp]
  cases op with
  | listen name adv => simp only; split; exact .same; exact .opened { name := name, adv := adv, adEntry := adv } _ rfl
  | close i => exact .closed i s.conns
  | dial => exact .opened { name := freshName s } _ rfl
  | connClose c =>
    simp only
    split
    · split
      · exact .closed _ _
      · exact .conns _
    · exact .same
  | send i | recv i | subscribe i | unsubscribe i =>
    simp only; split; split
    · exact .counters _ _ fun _ => ⟨rfl, rfl⟩
    · exact .same
    · exact .same
  | wake i =>
    simp only
    split
    · split
      · split
        · next h => exact .crash (by simpa using h.2)
        · exact .counters _ _ fun _ => ⟨rfl, rfl⟩
      · exact .same
    · exact .same

theorem Frame.panicked {G : Guards} {s t : St} (hf : Frame G s t) (h : t.panicked = true) :
    s.panicked = true ∨ G.recvCloseOnce = false ∨ G.adRemoveChecked = false := by
  cases hf with
  | same | conns | opened => exact .inl h
  | counters i f => rw [modSock_panicked] at h; exact .inl h
  | crash hG => exact .inr (.inl hG)
  | closed i c => exact (closeSock_panicked h).imp id .inr

/-- a panic needs a missing guard (`dialReleasesSocket` is not one of them) -/
theorem run_panicked {G : Guards} : ∀ (ops : List Op) (s : St), (run G s ops).panicked = true →
    s.panicked = true ∨ G.recvCloseOnce = false ∨ G.adRemoveChecked = false
  | [], _, h => .inl h
  | op :: rest, s, h => (run_panicked rest _ h).elim (step_frame G s op).panicked .inr

/-- **no_crash.** No sequence of opening, closing (any number of times), sending to, reading from, waking,
subscribing, unsubscribing, dialling and ending connections — in any order, of any length — makes the
process panic. -/
theorem no_crash (ops : List Op) : (run allGuards {} ops).panicked = false :=
  Bool.eq_false_iff.2 fun h => absurd (run_panicked ops {} h) (by decide)


/-! ### No leak: a bound name always belongs to an open socket -/

abbrev RegOK (s : St) : Prop := ∀ n ∈ s.registry, ∃ (j : Nat) (y : Sock), s.socks[j]? = some y ∧ y.open_ = true ∧ y.name = n

theorem regOK_closeSock (G : Guards) (s : St) (i : Nat) (h : RegOK s) : RegOK (closeSock G s i) := by
  cases hx : s.socks[i]? with
  | none => rw [closeSock_none G hx]; exact h
  | some x =>
    rw [closeSock_eq G hx]
    intro n hn
    have hn' : n ∈ s.registry ∧ n ≠ x.name := by simpa using hn
    obtain ⟨j, y, hj, ho, hname⟩ := h n hn'.1
    -- the socket that holds the name is another one, since this one's name has just been unbound
    have hij : i ≠ j := by
      intro e; subst e; rw [hx] at hj; cases hj; exact hn'.2 hname.symm
    exact ⟨j, y, by rw [← hj]; exact List.getElem?_set_ne hij, ho, hname⟩

theorem Frame.regOK {G : Guards} {s t : St} (hf : Frame G s t) (h : RegOK s) : RegOK t := by
  cases hf with
  | same | conns | crash => exact h
  | closed i c => exact regOK_closeSock G _ i h
  | counters i f hf =>
    intro n hn
    rw [modSock_registry] at hn
    obtain ⟨j, y, hj, ho, hname⟩ := h n hn
    by_cases hij : i = j
    · subst hij
      rw [modSock_eq hj]
      exact ⟨i, f y, List.getElem?_set_self (List.getElem?_eq_some_iff.1 hj).1, (hf y).1 ▸ ho, (hf y).2 ▸ hname⟩
    · refine ⟨j, y, ?_, ho, hname⟩
      unfold modSock
      split
      · rw [← hj]; exact List.getElem?_set_ne hij
      · exact hj
  | opened x c hx =>
    intro n hn
    simp only [List.mem_append, List.mem_singleton] at hn
    rcases hn with hn | hn
    · obtain ⟨j, y, hj, ho, hname⟩ := h n hn
      exact ⟨j, y, by simp only; rw [List.getElem?_append_left (List.getElem?_eq_some_iff.1 hj).1]; exact hj, ho, hname⟩
    · exact ⟨s.socks.length, x, by simp, hx, hn.symm⟩

/-- **no_leak.** After any sequence of operations every bound service name belongs to a socket that is
still open — with or without the guards: no closing order leaves a name bound. -/
theorem no_leak (G : Guards) (ops : List Op) : RegOK (run G {} ops) :=
  List.foldlRecOn (motive := RegOK) ops (step G) nofun fun s h op _ => (step_frame G s op).regOK h

/-- **all_closed_nothing_bound.** Once every socket has been closed, no service name is bound any more. -/
theorem all_closed_nothing_bound (G : Guards) (ops : List Op) (hc : ∀ x ∈ (run G {} ops).socks, x.open_ = false) :
    (run G {} ops).registry = [] := by
  refine List.eq_nil_iff_forall_not_mem.2 fun n hn => ?_
  obtain ⟨j, y, hj, ho, _⟩ := no_leak G ops n hn
  rw [hc y (List.mem_of_getElem? hj)] at ho
  cases ho

/-- **conn_end_releases_socket.** When a dialled connection ends, the ephemeral socket it was given is
closed and its service name unbound (given that the source releases it — the defect repaired in /repo). -/
theorem conn_end_releases_socket (s : St) (c i : Nat) (x : Sock) (hp : s.panicked = false) (hc : s.conns[c]? = some (i, true))
    (hx : s.socks[i]? = some x) :
    x.name ∉ (step allGuards s (.connClose c)).registry := by
  have : step allGuards s (.connClose c) = closeSock allGuards { s with conns := s.conns.set c (i, false) } i := by
    simp [step, hp, hc, allGuards]
  rw [this, closeSock_eq (s := { s with conns := s.conns.set c (i, false) }) _ hx]
  simp

/-! ### The defects found with this model (repaired in /repo) -/

/-- two deliverers parked at a socket that is then closed: the second one to notice closes the receive channel again -/
theorem C17_witness_double_close_of_recv :
    (run { allGuards with recvCloseOnce := false } {} [.listen 7 false, .send 0, .send 0, .close 0, .wake 0, .wake 0]).panicked = true := by decide

/-- closing an advertising socket twice: the second withdrawal dereferences a missing table entry -/
theorem C17_witness_double_close_of_advertised :
    (run { allGuards with adRemoveChecked := false } {} [.listen 7 true, .close 0, .close 0]).panicked = true := by decide

/-- a dialled connection whose socket is not released when it ends: the name stays bound for ever -/
theorem C17_witness_dial_leak :
    (run { allGuards with dialReleasesSocket := false } {} [.dial, .connClose 0]).registry = [1] := by decide

/-- Non-vacuity: the same histories with the guards -/
example : (run allGuards {} [.listen 7 true, .send 0, .send 0, .close 0, .wake 0, .wake 0, .close 0, .dial, .connClose 0]).panicked = false
    ∧ (run allGuards {} [.listen 7 true, .send 0, .send 0, .close 0, .wake 0, .wake 0, .close 0, .dial, .connClose 0]).registry = [] := by decide

end Receptor.Sock

namespace Receptor.ListenerClose

/-- the order of the two closes in the source (regenerated fact) -/
def pcFirstOfFacts : Bool := decide (Receptor.Facts.sock_listener_close_order = "packet-conn<quic-listener")

theorem order_of_source : pcFirstOfFacts = false := by decide +kernel

theorem inv_init : Inv init = true := by decide

theorem inv_turn : ∀ (a : Fin 6) (b : Fin 5) (t : Bool) (m o : Fin 3),
    Inv ⟨a, b, t, m, o⟩ = true →
      stuck false ⟨a, b, t, m, o⟩ = false
      ∧ Inv ((stepA false ⟨a, b, t, m, o⟩).getD ⟨a, b, t, m, o⟩) = true
      ∧ Inv ((stepB ⟨a, b, t, m, o⟩).getD ⟨a, b, t, m, o⟩) = true := by
  -- a sweep over the 540 states of the model, which is finite by nature
  decide +kernel

theorem inv_run : ∀ (sched : List Bool) (s : St), Inv s = true → Inv (run false s sched) = true
  | [], _, h => h
  | true :: rest, ⟨a, b, t, m, o⟩, h => inv_run rest _ (inv_turn a b t m o h).2.1
  | false :: rest, ⟨a, b, t, m, o⟩, h => inv_run rest _ (inv_turn a b t m o h).2.2

/-- **listener_close_never_wedges.** With the QUIC listener closed before the packet connection, under every schedule of
the caller and the transport's read loop: as long as `Listener.Close` has not returned, somebody can move. -/
theorem listener_close_never_wedges (sched : List Bool) : stuck false (run false init sched) = false := by
  have h := inv_run sched init inv_init
  generalize run false init sched = s at h
  obtain ⟨a, b, t, m, o⟩ := s
  exact (inv_turn a b t m o h).1

/-- Witness: the other order has a schedule after which both wait for each other for ever -/
theorem C17_witness_listener_close_wedges : stuck true (run true init [true, true, false]) = true := by decide


end Receptor.ListenerClose

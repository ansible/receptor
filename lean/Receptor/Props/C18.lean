import Receptor.Proofs.Ads
import Receptor.Generated.Facts
/-!
# C18 — advertisements converge; a withdrawn service is never resurrected

The pinned tree kept no memory of a withdrawal: the full-strength statements hold for the tombstone
variant of the model and are proved for it; for the variant without tombstones the proved statements
are the `_partial` ones, and the negation of the full statement is proved on concrete witnesses
(`C18_witness_*`), which the check replayed on the implementation.  The source now remembers
withdrawals (`ads_tombstones = true`, repaired in /repo): the full-strength theorems are the ones that
apply to it.
-/
namespace Receptor.Ads

/-- **Tie (translator)**: a message that is not newer than a remembered withdrawal is ignored; keep-unless-newer
test; a cancel deletes the entry and records its time, an advertisement forgets the withdrawal; relay through
`flood(data, receivedFrom)` only when the message was not ignored. -/
theorem C18_facts :
    Receptor.Facts.ads_keep_test = "si.Time.After(curSvc.Time)"
    ∧ Receptor.Facts.ads_tombstone_test = "withdrawn && !si.Time.After(withdrawnAt)"
    ∧ Receptor.Facts.ads_tombstones = true
    ∧ Receptor.Facts.ads_relay = "keepCur:return;s.flood(data, receivedFrom)"
    ∧ Receptor.Facts.ads_stamp = "collect:Time=time.Now(),under-listenerLock;send:unstamped"
    ∧ Receptor.Facts.ads_close_order = "lock<unregister<withdraw" :=
  ⟨rfl, rfl, rfl, rfl, rfl, rfl⟩

def about (k : Node × Svc) (m : Msg) : Bool := (m.node, m.svc) == k

/-- the entry of key `k` after a history, starting from `cur` -/
def fold (tb : Bool) (k : Node × Svc) : Option Entry → List (Msg × Node) → Option Entry
  | cur, [] => cur
  | cur, (m, _) :: rest => fold tb k (if about k m then upd tb cur m else cur) rest

theorem run_get? (tb : Bool) (k : Node × Svc) : ∀ (h : List (Msg × Node)) (s : State),
    get? (run tb s h).1 k = fold tb k (get? s k) h := by
  intro h
  induction h with
  | nil => intro s; rfl
  | cons x rest ih => intro s; simp only [run, fold]; rw [ih, step_get?]; rfl

/-- **ads_newer_wins.** An advertisement or withdrawal that is not newer than the entry a node
holds for that service changes nothing and is not relayed — in either variant. -/
theorem ads_newer_wins (tb : Bool) (s : State) (m : Msg) (recv : Node) (cur : Entry)
    (hc : get? s (m.node, m.svc) = some cur) (hold : m.time ≤ cur.time) :
    step tb s m recv = (s, []) := by
  unfold step
  have : ¬ (m.time > cur.time) := by omega
  simp [hc, this]

/-- the timestamp of an entry never decreases while the entry exists -/
theorem entry_time_monotone (tb : Bool) (cur : Entry) (m : Msg) (new : Entry)
    (h : upd tb (some cur) m = some new) : cur.time ≤ new.time := by
  rw [upd_eq] at h
  split at h
  · next hn => rw [written_time h]; exact Nat.le_of_lt hn
  · cases h; exact Nat.le_refl _

/-! ### with tombstones: the entry is decided by the newest message, whatever the order -/

/-- the entry after a history is the old one or that of a message of the history, and no message about the key
is newer than it -/
theorem fold_newest (k : Node × Svc) : ∀ (h : List (Msg × Node)) (cur : Option Entry),
    rank cur ≤ rank (fold true k cur h)
    ∧ (∀ x ∈ h, about k x.1 = true → x.1.time < rank (fold true k cur h))
    ∧ (fold true k cur h = cur ∨ ∃ x ∈ h, about k x.1 = true ∧ fold true k cur h = written true x.1) := by
  intro h
  induction h with
  | nil => intro cur; simp [fold]
  | cons x rest ih =>
    intro cur
    simp only [fold, List.mem_cons, forall_eq_or_imp, exists_eq_or_imp]
    obtain ⟨h1, h2, h3⟩ := ih (if about k x.1 then upd true cur x.1 else cur)
    obtain ⟨u1, u2, u3⟩ := upd_tomb cur x.1
    by_cases ha : about k x.1 = true
    · simp only [ha, if_true, true_and] at h1 h2 h3 ⊢
      refine ⟨Nat.le_trans u1 h1, ⟨fun _ => Nat.lt_of_lt_of_le u2 h1, h2⟩, ?_⟩
      rcases h3 with h3 | h3
      · rw [h3]; exact u3.imp id .inl
      · exact .inr (.inr h3)
    · simp only [ha] at h1 h2 h3 ⊢
      exact ⟨h1, ⟨fun h => absurd h (by simp), h2⟩, h3.imp id .inr⟩

theorem newest_of_fold {k : Node × Svc} {h : List (Msg × Node)} {e : Entry} (hr : fold true k none h = some e) :
    (∀ x ∈ h, about k x.1 = true → x.1.time ≤ e.time)
    ∧ ∃ x ∈ h, about k x.1 = true ∧ written true x.1 = some e := by
  obtain ⟨_, h2, h3⟩ := fold_newest k h none
  rw [hr] at h2 h3
  refine ⟨fun x hx ha => Nat.le_of_lt_succ (h2 x hx ha), ?_⟩
  rcases h3 with h3 | ⟨x, hx, ha, h3⟩
  · cases h3
  · exact ⟨x, hx, ha, h3.symm⟩

/-- the closed form: a message that none is newer than decides; ties are harmless when they write the same entry -/
theorem fold_of_newest {k : Node × Svc} {h : List (Msg × Node)} {x : Msg × Node} (hx : x ∈ h)
    (ha : about k x.1 = true) (hmax : ∀ y ∈ h, about k y.1 = true → y.1.time ≤ x.1.time)
    (hsame : ∀ y ∈ h, about k y.1 = true → y.1.time = x.1.time → written true y.1 = written true x.1) :
    fold true k none h = written true x.1 := by
  obtain ⟨_, h2, h3⟩ := fold_newest k h none
  have hx' := h2 x hx ha
  rcases h3 with h3 | ⟨y, hy, hay, h3⟩
  · rw [h3] at hx'; cases hx'
  · rw [h3, rank_written] at hx'
    rw [h3]
    exact hsame y hy hay (Nat.le_antisymm (hmax y hy hay) (Nat.le_of_lt_succ hx'))

/-- **ads_no_resurrection (tombstone variant).** Starting from a node that knows nothing, after
any history of advertisements and withdrawals in any order: if the node lists the service,
then the listed entry is the content of an advertisement of the history that is at least as
new as *every* message about the service — in particular as every withdrawal.  A withdrawn
service is therefore listed again only through an advertisement that is not older than the
withdrawal, and an older advertisement never replaces a newer one. -/
theorem ads_no_resurrection (k : Node × Svc) (h : List (Msg × Node)) (conns : List Node) (t : Nat) (i : Info)
    (hl : get? (run true { table := [], conns := conns } h).1 k = some (.live t i)) :
    (∀ x ∈ h, about k x.1 = true → x.1.time ≤ t) ∧
    ∃ x ∈ h, about k x.1 = true ∧ x.1.time = t ∧ x.1.cancel = false ∧ x.1.info = i := by
  rw [run_get?] at hl
  obtain ⟨hmax, x, hx, ha, hw⟩ := newest_of_fold hl
  exact ⟨hmax, x, hx, ha, written_live hw⟩

/-- **order independence (tombstone variant)**: when the messages about a service carry distinct
timestamps, the entry every node ends up with depends only on the *set* of messages it has
processed — the one with the greatest timestamp — so nodes that have seen the same messages
agree, whatever the delivery order was. -/
theorem ads_converge_same_messages (k : Node × Svc) (h1 h2 : List (Msg × Node)) (c1 c2 : List Node)
    (hperm : ∀ x, (∃ r, (x, r) ∈ h1) ↔ (∃ r, (x, r) ∈ h2))
    (hdist : ∀ x y r r', (x, r) ∈ h1 → (y, r') ∈ h1 → about k x = true → about k y = true → x.time = y.time → x = y)
    (t : Nat) (i : Info) (hl : get? (run true { table := [], conns := c1 } h1).1 k = some (.live t i)) :
    get? (run true { table := [], conns := c2 } h2).1 k = some (.live t i) := by
  rw [run_get?] at hl ⊢
  obtain ⟨hmax, x, hx, ha, hw⟩ := newest_of_fold hl
  obtain ⟨r, hx2⟩ := (hperm x.1).1 ⟨x.2, hx⟩
  rw [← hw]
  refine fold_of_newest (x := (x.1, r)) hx2 ha (fun y hy hay => ?_) (fun y hy hay ht => ?_)
  · obtain ⟨r1, hy1⟩ := (hperm y.1).2 ⟨y.2, hy⟩
    rw [(written_live hw).1]
    exact hmax (y.1, r1) hy1 hay
  · obtain ⟨r1, hy1⟩ := (hperm y.1).2 ⟨y.2, hy⟩
    rw [hdist y.1 x.1 r1 x.2 hy1 hx hay ha ht]

/-! ### the variant the source implements (no tombstones) -/

/-- **Witness (resurrection).** Advertisement at time 1, withdrawal at time 2, then a delayed
copy of the advertisement of time 1: the service is listed again. -/
theorem C18_witness_resurrection :
    let ad : Msg := { node := [1], svc := [2], time := 1, info := ⟨0, []⟩, cancel := false }
    let wd : Msg := { node := [1], svc := [2], time := 2, info := ⟨0, []⟩, cancel := true }
    (listed (run false { table := [], conns := [[9]] } [(ad, [9]), (wd, [9]), (ad, [9])]).1).length = 1
    ∧ (listed (run true { table := [], conns := [[9]] } [(ad, [9]), (wd, [9]), (ad, [9])]).1).length = 0 := by
  decide

/-- **Witness (a withdrawal is relayed again and again).** The same withdrawal delivered twice
is relayed twice when nothing is remembered about it — in a cyclic topology it circulates
without end; with tombstones the second copy is dropped. -/
theorem C18_witness_cancel_reflooded :
    let wd : Msg := { node := [1], svc := [2], time := 2, info := ⟨0, []⟩, cancel := true }
    (run false { table := [], conns := [[8], [9]] } [(wd, [9]), (wd, [9])]).2 = [[.relay [8] wd], [.relay [8] wd]]
    ∧ (run true { table := [], conns := [[8], [9]] } [(wd, [9]), (wd, [9])]).2 = [[.relay [8] wd], []] := by
  decide

/-- **ads_in_order_partial.** Without tombstones the newest message still decides as long as
the messages about a service arrive in timestamp order (single path, FIFO links): after a
history whose messages about `k` have strictly increasing times, the entry for `k` is that of
the last such message. -/
theorem ads_in_order_partial (k : Node × Svc) : ∀ (h : List (Msg × Node)) (cur : Option Entry) (lo : Nat),
    (∀ e, cur = some e → e.time ≤ lo) →
    (h.filter fun x => about k x.1).Pairwise (fun a b => a.1.time < b.1.time) →
    (∀ x ∈ h, about k x.1 = true → lo < x.1.time) →
    fold false k cur h =
      match (h.filter fun x => about k x.1).getLast? with
      | none => cur
      | some x => if x.1.cancel then none else some (.live x.1.time x.1.info) := by
  intro h
  induction h with
  | nil => intro cur lo _ _ _; rfl
  | cons x rest ih =>
    intro cur lo hcur hpw hlo
    simp only [fold]
    by_cases ha : about k x.1 = true
    · simp only [ha, if_true, List.filter_cons_of_pos, List.pairwise_cons, List.mem_filter, and_imp] at hpw ⊢
      -- the message is newer than the entry: it decides, and bounds the entry for what follows
      have hupd : upd false cur x.1 = written false x.1 := by
        rw [upd_eq, if_pos]
        cases cur with
        | none => exact Nat.zero_le _
        | some e => exact Nat.lt_of_le_of_lt (hcur e rfl) (hlo x (List.mem_cons_self ..) ha)
      rw [List.getLast?_cons, ih _ x.1.time (fun e he => Nat.le_of_eq (written_time (hupd ▸ he))) hpw.2 hpw.1, hupd]
      cases (rest.filter fun x => about k x.1).getLast? <;> simp [written]
    · simp only [ha, List.filter_cons_of_neg, Bool.false_eq_true, if_false, not_false_eq_true] at hpw ⊢
      exact ih cur lo hcur hpw fun y hy => hlo y (List.mem_cons_of_mem _ hy)


/-- **withdrawn_stays_withdrawn.** Whatever else a node hears, in whatever order and however often: if the history
contains a withdrawal of a service and every advertisement of that service in the history is older than it, the
node does not list the service. -/
theorem withdrawn_stays_withdrawn (k : Node × Svc) (h : List (Msg × Node)) (conns : List Node) (wd : Msg) (r : Node)
    (hwd : (wd, r) ∈ h) (hk : about k wd = true)
    (hold : ∀ x ∈ h, about k x.1 = true → x.1.cancel = false → x.1.time < wd.time) (t : Nat) (i : Info) :
    get? (run true { table := [], conns := conns } h).1 k ≠ some (.live t i) := by
  intro hl
  obtain ⟨hmax, x, hx, hax, htx, hcx, _⟩ := ads_no_resurrection k h conns t i hl
  have h1 := hmax (wd, r) hwd hk
  have h2 := hold x hx hax hcx
  simp only at h1
  omega

/-- **owner_race_no_resurrection.** A periodic advertisement round of the owner that overlaps the closing of the
listener: the advertisement carries the time at which the listener was seen to exist, which precedes the withdrawal,
so no node that receives the two messages — in either order, repeated, mixed with anything older — lists the
closed service. -/
theorem owner_race_no_resurrection (node : Node) (svc : Svc) (info : Info) (rc : OwnerRace) (hlt : rc.collectAt < rc.closeAt)
    (h : List (Msg × Node)) (conns : List Node) (r : Node)
    (hwd : (ownerWithdrawal node svc rc, r) ∈ h)
    (hold : ∀ x ∈ h, about (node, svc) x.1 = true → x.1.cancel = false → x.1.time ≤ (ownerAd true node svc info rc).time)
    (t : Nat) (i : Info) :
    get? (run true { table := [], conns := conns } h).1 (node, svc) ≠ some (.live t i) := by
  apply withdrawn_stays_withdrawn (node, svc) h conns (ownerWithdrawal node svc rc) r hwd
  · simp [about, ownerWithdrawal]
  · intro x hx ha hc
    have := hold x hx ha hc
    simp only [ownerAd, if_true, ownerWithdrawal] at this ⊢
    omega

/-- Witness: stamped when it is sent, the stale advertisement is newer than the withdrawal and resurrects the
closed service at every node, in either order of arrival. -/
theorem C18_witness_stamped_at_send :
    let rc : OwnerRace := { collectAt := 1, closeAt := 2, sendAt := 3 }
    let inf : Info := ⟨0, []⟩
    (listed (run true { table := [], conns := [] } [(ownerWithdrawal [1] [2] rc, [9]), (ownerAd false [1] [2] inf rc, [9])]).1).length = 1
    ∧ (listed (run true { table := [], conns := [] } [(ownerAd false [1] [2] inf rc, [9]), (ownerWithdrawal [1] [2] rc, [9])]).1).length = 1
    ∧ (listed (run true { table := [], conns := [] } [(ownerWithdrawal [1] [2] rc, [9]), (ownerAd true [1] [2] inf rc, [9])]).1).length = 0
    ∧ (listed (run true { table := [], conns := [] } [(ownerAd true [1] [2] inf rc, [9]), (ownerWithdrawal [1] [2] rc, [9])]).1).length = 0 := by
  decide


/-- the blocks of `Close` as the source has them (regenerated fact `ads_close_order`) -/
def closeOfFacts : List (List CloseAct) :=
  if Receptor.Facts.ads_close_order = "lock<unregister<withdraw" then closeOfSource else closeStampFirst

theorem closeOfFacts_eq : closeOfFacts = closeOfSource := if_pos rfl

def olderThanWithdrawal (r : Option (Nat × Nat)) : Bool :=
  match r with
  | some (a, w) => a < w
  | none => true

/-- **close_serialised_with_rounds.** Wherever an advertisement round falls relative to `Close`: either it does not see
the socket any more and emits nothing, or its advertisement is older than the withdrawal. -/
theorem close_serialised_with_rounds (pos : Nat) (h : pos ≤ closeOfSource.length) :
    olderThanWithdrawal (closeVsRound closeOfSource pos) = true := by
  have h1 : pos = 0 ∨ pos = 1 := by
    simp only [closeOfSource, List.length_cons, List.length_nil] at h
    omega
  rcases h1 with rfl | rfl <;> decide

/-- Witness: with the withdrawal stamped before the lock is taken, a round in between emits an advertisement newer than it -/
theorem C18_witness_stamp_before_lock : closeVsRound closeStampFirst 1 = some (1, 0) := by decide


end Receptor.Ads

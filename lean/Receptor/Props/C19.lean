import Receptor.Model.Work
import Receptor.Proofs.WorkNode
import Receptor.Generated.Facts
/-!
# C19 — secret work parameters are never disclosed by the API nor sent without TLS
-/
namespace Receptor.Work

/-- **Tie (translator)**: the redaction test (lower-cased key, prefix `secret_`) in
`remoteUnit.Status`, the same test before `AllocateUnit` in `AllocateRemoteUnit`, every
status/list response built from `Status()` (never `UnredactedStatus`), the unredacted copy used
only to build the submission sent to the remote node (and, for Kubernetes units, the API calls
to the cluster). -/
theorem C19_facts :
    Receptor.Facts.redact_test = "strings.HasPrefix(strings.ToLower(k), \"secret_\")"
    ∧ Receptor.Facts.redact_alloc_test = "strings.HasPrefix(strings.ToLower(k), \"secret_\")"
    ∧ Receptor.Facts.redact_alloc_order = "secrets-test,refuse-without-tls,AllocateUnit"
    ∧ Receptor.Facts.redact_cfr_source = "w.UnitStatus(unitID);unit.Status()"
    ∧ Receptor.Facts.redact_unredacted_users = "connectUsingKubeconfig,createPod,startRemoteUnit" :=
  ⟨rfl, rfl, rfl, rfl, rfl⟩

/-- **redacted_has_no_secret_key.** No parameter whose name begins with `secret_` in any letter
case survives redaction. -/
theorem redacted_has_no_secret_key (ps : Params) : ∀ e ∈ redact ps, isSecretKey e.1 = false := by
  intro e he
  simp only [redact, List.mem_filter] at he
  simpa using he.2

/-- **non_secret_unchanged.** Every other parameter is reported, with its value, and nothing is
invented. -/
theorem non_secret_unchanged (ps : Params) (e : Bytes × Bytes) :
    e ∈ redact ps ↔ e ∈ ps ∧ isSecretKey e.1 = false := by
  simp [redact, List.mem_filter]

/-- any letter case of the prefix is recognised -/
theorem secret_any_case (k : Bytes) (h : lowerB (k.take 7) = secretPrefix) : isSecretKey k = true := by
  have : (lowerB k).take 7 = lowerB (k.take 7) := by simp [lowerB, List.map_take]
  simp [isSecretKey, this, h]

/-- redaction is idempotent and order-preserving (a status of a status shows the same) -/
theorem redact_idem (ps : Params) : redact (redact ps) = redact ps := by
  simp [redact, List.filter_filter]

/-- **refused_before_store.** A remote submission with a secret parameter and no TLS client
profile is refused, and (the check coming first) nothing has been written or sent. -/
theorem refused_before_store (ps : Params) (h : hasSecrets ps = true) :
    allocateRemote true [] ps = (.refused, false) := by
  simp [allocateRemote, h]

/-- … and only then: with a TLS profile, or without secrets, the parameters are stored as given -/
theorem stored_otherwise (tls : Bytes) (ps : Params) (h : hasSecrets ps = false ∨ tls ≠ []) :
    allocateRemote true tls ps = (.stored ps, true) := by
  rcases h with h | h <;> simp [allocateRemote, h]

/-- Non-vacuity: mixed-case secret keys and a look-alike. -/
example : redact [([83, 69, 67, 82, 69, 84, 95, 120], [1]), ([115, 101, 99, 114, 101, 116], [2]), ([115, 101, 99, 114, 101, 116, 95], [3])]
    = [([115, 101, 99, 114, 101, 116], [2])] := by decide

end Receptor.Work

/-! ## over histories -/
namespace Receptor.WorkNode
open Receptor.Work

/-- **never_disclosed.** From the moment of submission to release, across any sequence of submit, status, list,
cancel, release, results commands (with or without tokens, on any connection) and restarts, from any state:
no response shows a parameter whose name begins with `secret_` in any letter case. -/
theorem never_disclosed : ∀ (ops : List Op) (n : Node) (o : Out), o ∈ (run n ops).2 →
    ∀ l, o = .shown l → ∀ q ∈ l, ∀ e ∈ q.2, isSecretKey e.1 = false := by
  intro ops n o ho l hl q hq e he
  obtain ⟨u', rfl, _⟩ := run_shown ops n o ho l hl q hq
  exact redacted_has_no_secret_key u'.params e he

/-- **reported_is_redacted_submission.** … while all other parameters are reported unchanged: whatever a
response shows for a unit is exactly the parameter map of some earlier submission with the secret entries
removed — after any number of other commands and restarts in between. -/
theorem reported_is_redacted_submission : ∀ (ops : List Op) (n : Node) (prev : List Cmd),
    (∀ u ∈ n.units, ∃ c ∈ prev, c.sub = .submit ∧ u.params = c.params) →
    ∀ o ∈ (run n ops).2, ∀ l, o = .shown l → ∀ q ∈ l,
      ∃ c, (c ∈ prev ∨ Op.cmd c ∈ ops) ∧ c.sub = .submit ∧ q.2 = redact c.params := by
  intro ops n prev hinv o ho l hl q hq
  obtain ⟨u', rfl, ⟨u, hu, hc⟩ | ⟨c, hc, hs, hp, _⟩⟩ := run_shown ops n o ho l hl q hq
  · obtain ⟨c, hc', hs, hp⟩ := hinv u hu
    exact ⟨c, .inl hc', hs, by rw [← hp, params_of_core hc]; rfl⟩
  · exact ⟨c, .inr hc, hs, by rw [← hp]; rfl⟩

/-- the same from a node that holds nothing yet: every reported map is a redacted submission of this history -/
theorem reported_is_redacted_submission_from_empty (ops : List Op) (key : Bool) :
    ∀ o ∈ (run { key := key } ops).2, ∀ l, o = .shown l → ∀ q ∈ l,
      ∃ c, Op.cmd c ∈ ops ∧ c.sub = .submit ∧ q.2 = redact c.params := by
  intro o ho l hl q hq
  obtain ⟨c, h | h, hs, hp⟩ := reported_is_redacted_submission ops { key := key } [] (by intro u hu; cases hu) o ho l hl q hq
  · cases h
  · exact ⟨c, h, hs, hp⟩

/-- **secrets_only_with_tls.** In every history, every remote unit the node ever stores whose parameters
contain a secret names a TLS client profile (the refusal comes before anything is stored). -/
theorem secrets_only_with_tls : ∀ (ops : List Op) (n : Node), (∀ u ∈ n.units, TlsOK u) →
    ∀ u ∈ (run n ops).1.units, TlsOK u := by
  intro ops n h u' hu'
  rcases run_units ops n u' hu' with ⟨u, hu, hc⟩ | ⟨_, _, _, _, ht⟩
  · exact (h u hu).of_core hc
  · exact ht

/-- Non-vacuity: a submission with a mixed-case secret and a plain parameter, a restart, a status and a list. -/
example :
    (run {} [.cmd { sub := .submit, cfg := ⟨true, false, true, false⟩, tls := [1], conn := .unix, tok := ⟨false, false⟩,
                    params := [([83, 69, 67, 82, 69, 84, 95, 120], [1]), ([97], [2])] },
             .restart,
             .cmd { sub := .status, target := 0, conn := .other, tok := ⟨false, false⟩ },
             .cmd { sub := .list, conn := .other, tok := ⟨false, false⟩ },
             .cmd { sub := .submit, cfg := ⟨true, false, true, false⟩, tls := [], conn := .unix, tok := ⟨false, false⟩,
                    params := [([83, 69, 67, 82, 69, 84, 95, 120], [1])] }]).2
      = [.done, .restarted, .shown [(0, [([97], [2])])], .shown [(0, [([97], [2])])], .refusedSecrets] := by
  decide

end Receptor.WorkNode

import Receptor.Proofs.DER
import Receptor.Generated.Facts
/-!
# C20 — issued certificates carry exactly the requested names

Property theorems only.  `makeSAN`/`receptorNames` are the byte-level models of
`MakeReceptorSAN`/`ReceptorNames` (tied to the Go code by the `der` engine of
the correspondence check).
-/
namespace Receptor.DER

/-- **Tie (translator)**: the source currently strips the header by parsing it. -/
theorem C20_facts : stripOfFact Receptor.Facts.der_strip = some .parsed := by decide

/-- **Tie (translator)**: the peer verifier that judges issued certificates is a closure that reads the clock at
every handshake (every validity window is judged at the time of use, not at the time the verifier was made). -/
theorem C20_verifier_facts :
    Receptor.Facts.rvf_closure = "single-return-closure;CurrentTime:time.Now()x2;empty-chain:refused" := rfl

/-- **C20 main theorem.** For every list of DNS names, IP addresses and node IDs
(any lengths, any valid UTF-8 — in particular across the 127/128-byte DER
length threshold), reading the receptor names back from the extension that
`MakeReceptorSAN` (with a parsed header strip) builds returns exactly the
requested IDs, in order, duplicates included.  The only size hypothesis is
Go's own: the extension is shorter than 2^31 bytes. -/
theorem receptorNames_makeSAN (dns ips ids : List Bytes)
    (hv : ∀ id ∈ ids, validUTF8 id = true)
    (hsz : (makeSAN .parsed dns ips ids).length < 2147483648) :
    receptorNames (makeSAN .parsed dns ips ids) = .ok ids := by
  rw [makeSAN_parsed] at hsz ⊢
  have hb := Nat.lt_trans (tlv_length_gt _ _) hsz
  have htag : ∀ e ∈ sanEntries dns ips ids, e.1 % 32 ≠ 31 := by
    intro e he
    simp only [sanEntries, List.mem_append, List.mem_map] at he
    rcases he with ⟨a, _, rfl⟩ | ⟨a, _, rfl⟩ | ⟨a, _, rfl⟩ <;> (dsimp only; decide)
  simp only [receptorNames, decTLV_tlv_nil 0x30 _ (by decide) hb, decAll_tlvs _ htag hb]
  rw [if_neg (by decide), sanEntries, collectNames_skip 0x82 _ dns _ (by decide),
    collectNames_skip 0x87 _ ips _ (by decide)]
  refine collectNames_ids ids hv fun id hid => Nat.lt_trans (length_lt_tlvs (e := (0xA0, _)) ?_) hb
  simp only [sanEntries, List.mem_append, List.mem_map]
  exact .inr (.inr ⟨id, hid, rfl⟩)

/-- Non-vacuity: a 113-byte ID (the first length at which the OtherName body needs a
long-form DER length) meets the hypotheses, and the round trip holds on it. -/
example : (∀ id ∈ [List.replicate 113 0x61], validUTF8 id = true)
    ∧ (makeSAN .parsed [[0x61]] [[127,0,0,1]] [List.replicate 113 0x61]).length < 2147483648
    ∧ receptorNames (makeSAN .parsed [[0x61]] [[127,0,0,1]] [List.replicate 113 0x61])
        = .ok [List.replicate 113 0x61] := by
  have hv : ∀ id ∈ [List.replicate 113 0x61], validUTF8 id = true := by decide +kernel
  have hsz : (makeSAN .parsed [[0x61]] [[127,0,0,1]] [List.replicate 113 0x61]).length < 2147483648 := by decide +kernel
  exact ⟨hv, hsz, receptorNames_makeSAN _ _ _ hv hsz⟩

/-- **Witness of the defect in the pinned tree** (`asnOtherName[2:]`): with a fixed
two-byte strip a 113-byte node ID does not read back — the decoder reports an
error instead of the name.  (For shorter IDs the two strips coincide, see
`fixed2_eq_parsed_short`.) -/
theorem C20_witness_fixed2 :
    receptorNames (makeSAN (.fixed 2) [] [] [List.replicate 113 0x61])
      ≠ .ok [List.replicate 113 0x61] := by
  decide +kernel

/-- An ID that is not valid UTF-8 is never read back as a name: the decoder reports an
error (so "never a different name" also holds outside the encoder's intended domain). -/
theorem invalid_utf8_is_error (id : Bytes) (h : validUTF8 id = false) (hl : id.length < 2147483648) :
    decString (tlv 0x0C id) = .error .invalidUTF8 := by
  rw [decString_tlv id hl, h]; rfl

/-- With the fixed strip the encoder agrees with the parsed strip exactly while the
OtherName body stays below 128 bytes, i.e. for IDs of at most 112 bytes. -/
theorem fixed2_eq_parsed_short (id : Bytes) (h : id.length ≤ 112) :
    otherNameEntry (.fixed 2) id = otherNameEntry .parsed id := by
  have e1 : (tlv 0x0C id).length = id.length + 2 := tlv_length_of_lt _ (by omega)
  have e : (oidReceptor ++ tlv 0xA0 (tlv 0x0C id)).length = id.length + 15 := by
    rw [List.length_append, tlv_length_of_lt _ (by omega), e1]; exact Nat.add_comm _ _
  simp only [otherNameEntry, stripHeader, e, encLen_of_lt (show id.length + 15 < 128 by omega)]
  rfl

end Receptor.DER
